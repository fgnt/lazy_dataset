import LazyDs.Model.Basic
import LazyDs.Model.PySlice
import LazyDs.Model.Stage
import LazyDs.Model.Fn
import LazyDs.Model.Pipeline
import LazyDs.Conc.Stp
import LazyDs.Conc.Lpm
import LazyDs.Model.Bucket
import LazyDs.Model.Cache
import LazyDs.Model.Disk
import LazyDs.Spec.Ref
import LazyDs.Lemmas.Rel
import LazyDs.Lemmas.RefWF
import LazyDs.Lemmas.RelConcat
import LazyDs.Lemmas.RelBatch
import LazyDs.Lemmas.RelItems
import LazyDs.Lemmas.PySliceLemmas
import LazyDs.Lemmas.WfUnary
import LazyDs.Lemmas.ShardSort
import LazyDs.Lemmas.Assoc
import LazyDs.Lemmas.Machine
import LazyDs.Lemmas.BucketInv
import LazyDs.Lemmas.CacheInv
import LazyDs.Lemmas.DiskInv
import LazyDs.Lemmas.StpInv
import LazyDs.Lemmas.LpmInv
import LazyDs.Props.C10
import LazyDs.Props.C11
import LazyDs.Props.C15
import LazyDs.Props.C17
import LazyDs.Props.C18
import LazyDs.Props.StpTheorems
import LazyDs.Props.LpmTheorems
import LazyDs.Props.C07Config
import LazyDs.Model.Shuffle
import LazyDs.Model.Heap
import LazyDs.Model.Db
import LazyDs.Lemmas.RelIntersperse
import LazyDs.Lemmas.WfNary
import LazyDs.Lemmas.Sound
import LazyDs.Lemmas.ShuffleLemmas
import LazyDs.Props.C01
import LazyDs.Props.C02
import LazyDs.Props.C03
import LazyDs.Props.C12
import LazyDs.Model.CopyCfg
import LazyDs.Lemmas.HeapLemmas
import LazyDs.Lemmas.DbLemmas
import LazyDs.Lemmas.CatchLemmas
import LazyDs.Lemmas.AbsentKey
import LazyDs.Lemmas.RefLaws
import LazyDs.Props.C09
import LazyDs.Props.C13
import LazyDs.Props.C14
import LazyDs.Props.C16
import LazyDs.Props.C19
import LazyDs.Model.Profile
import LazyDs.Props.C20
import LazyDs.Model.Trace
import LazyDs.Lemmas.TraceLemmas
import LazyDs.Props.C08
import LazyDs.Lemmas.SoundErr
import LazyDs.Props.C01Err
import LazyDs.Props.C01Cycle
