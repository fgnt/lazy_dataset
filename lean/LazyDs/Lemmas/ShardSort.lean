import LazyDs.Model.Stage
import LazyDs.Lemmas.PySliceLemmas
/-
  What C15 (`split`, `shard`) and C18 (`sort`, `groupby`) rest on.

  * `np.array_split`: the section starts `sectionStart n k i` grow by `n / k` or `n / k + 1` from `0`
    to `n`, so the sections `sectionIdx n k i` are contiguous runs that tile `range n`.
  * `sorted(zip(values, count()))`: for a strict total order `lt` on the keys (`StrictTotal`),
    `pairLeBy lt` is a total preorder on the (key, index) pairs, so `List.mergeSort` sorts them:
    keys ascending, ties by index.
  * `groupby`: the invariant `GroupInv` of the grouping loop.
-/
namespace LazyDs.ShardSort

/-! ## `np.array_split` arithmetic -/

theorem sectionStart_zero (n k : Nat) : sectionStart n k 0 = 0 := by
  simp [sectionStart]

theorem sectionStart_succ (n k i : Nat) :
    sectionStart n k (i + 1) = sectionStart n k i + (n / k + (if i < n % k then 1 else 0)) := by
  unfold sectionStart
  rw [Nat.succ_mul]
  -- the `min` grows by one exactly while `i` is below the remainder
  split <;> omega

theorem sectionStart_mono (n k : Nat) {i j : Nat} (h : i ≤ j) :
    sectionStart n k i ≤ sectionStart n k j :=
  Nat.add_le_add (Nat.mul_le_mul_right _ h)
    ((Nat.le_min).2 ⟨Nat.le_trans (Nat.min_le_left ..) h, Nat.min_le_right ..⟩)

theorem sectionStart_last (n k : Nat) (hk : 1 ≤ k) : sectionStart n k k = n := by
  unfold sectionStart
  rw [Nat.min_eq_right (Nat.le_of_lt (Nat.mod_lt _ hk))]
  exact Nat.div_add_mod n k

theorem sectionStart_le (n k i : Nat) (hk : 1 ≤ k) (hi : i ≤ k) : sectionStart n k i ≤ n := by
  have := sectionStart_mono n k hi
  rwa [sectionStart_last n k hk] at this

theorem sectionIdx_eq_range' (n k i : Nat) :
    sectionIdx n k i
      = List.range' (sectionStart n k i) (sectionStart n k (i + 1) - sectionStart n k i) := by
  rw [List.range'_eq_map_range]
  apply List.map_congr_left
  intro x _; omega

theorem sectionIdx_length (n k i : Nat) :
    (sectionIdx n k i).length = n / k + (if i < n % k then 1 else 0) := by
  rw [sectionIdx_eq_range', List.length_range', sectionStart_succ]
  exact Nat.add_sub_cancel_left ..

theorem mem_sectionIdx {n k i x : Nat} :
    x ∈ sectionIdx n k i ↔ sectionStart n k i ≤ x ∧ x < sectionStart n k (i + 1) := by
  rw [sectionIdx_eq_range', List.mem_range'_1, Nat.add_sub_cancel' (sectionStart_mono n k (Nat.le_succ i))]

theorem sectionIdx_lt {n k i : Nat} (hk : 1 ≤ k) (hi : i < k) : ∀ x ∈ sectionIdx n k i, x < n := fun _ hx =>
  Nat.lt_of_lt_of_le (mem_sectionIdx.mp hx).2 (sectionStart_le n k (i + 1) hk hi)

theorem flatten_runs (f : Nat → Nat) (hf : ∀ {i j}, i ≤ j → f i ≤ f j) (k : Nat) :
    ((List.range k).map (fun i => List.range' (f i) (f (i + 1) - f i))).flatten
      = List.range' (f 0) (f k - f 0) := by
  induction k with
  | zero => simp
  | succ k ih =>
    have h0 : f 0 ≤ f k := hf (Nat.zero_le k)
    have h1 : f k ≤ f (k + 1) := hf (Nat.le_succ k)
    rw [List.range_succ, List.map_append, List.flatten_append, ih, List.map_singleton,
      List.flatten_singleton]
    -- the run `k` starts where the runs before it end
    have e : List.range' (f k) (f (k + 1) - f k) =
        List.range' (f 0 + (f k - f 0)) (f (k + 1) - f k) := by rw [Nat.add_sub_cancel' h0]
    rw [e, List.range'_append_1, ← Nat.sub_add_comm h0, Nat.add_sub_cancel' h1]

theorem mkSlice_idx_ok (d : DS) (n : Nat) (l : List Nat)
    (hix : d.indexable = true) (hg : d.sliceGuard = .ok ()) (hn : d.len = .ok n)
    (hl : ∀ x ∈ l, x < n) :
    mkSlice (.idx (l.map Int.ofNat)) d = .ok (sliceDS l d) := by
  -- `hg`, `hix`, `hn` pass the three guards of `mkSlice`; positions in range resolve to themselves
  simp [mkSlice, hg, hix, hn, resolveSlice, resolveIdx_ofNat hl, bind, Except.bind]

theorem mkSplit_eq (k : Int) (d : DS) :
    mkSplit k d =
      if k < 1 then .error .valueError
      else d.len >>= fun n =>
        if k > (n : Int) then .error .valueError
        else (List.range k.toNat).mapM fun i =>
          mkSlice (.idx ((sectionIdx n k.toNat i).map Int.ofNat)) d := by
  unfold mkSplit
  split <;> rfl

/-! ## `sorted(zip(values, count()))` -/

section SortSec
variable {κ : Type}

structure StrictTotal (lt : κ → κ → Bool) : Prop where
  irrefl : ∀ a, lt a a = false
  trans : ∀ a b c, lt a b = true → lt b c = true → lt a c = true
  total : ∀ a b, a ≠ b → lt a b = true ∨ lt b a = true

theorem StrictTotal.asymm {lt : κ → κ → Bool} (h : StrictTotal lt) {a b : κ}
    (hab : lt a b = true) : lt b a = false := by
  cases hba : lt b a with
  | false => rfl
  | true => have := h.trans a b a hab hba; rw [h.irrefl] at this; cases this

theorem pairLeBy_iff {lt : κ → κ → Bool} (h : StrictTotal lt) (a b : κ × Nat) :
    pairLeBy lt a b = true ↔ (lt a.1 b.1 = true ∨ (a.1 = b.1 ∧ a.2 ≤ b.2)) := by
  unfold pairLeBy
  constructor
  · intro hp
    by_cases h1 : lt a.1 b.1 = true
    · exact Or.inl h1
    · by_cases h2 : lt b.1 a.1 = true
      · simp [h1, h2] at hp
      · simp only [h1, h2, if_false, Bool.false_eq_true, decide_eq_true_eq] at hp
        exact Or.inr ⟨Classical.byContradiction fun hne => (h.total _ _ hne).elim h1 h2, hp⟩
  · intro hp
    cases hp with
    | inl h1 => simp [h1]
    | inr h2 =>
      obtain ⟨he, hle⟩ := h2
      simp [he, h.irrefl, hle]

theorem pairLeBy_trans {lt : κ → κ → Bool} (h : StrictTotal lt) (a b c : κ × Nat)
    (hab : pairLeBy lt a b = true) (hbc : pairLeBy lt b c = true) : pairLeBy lt a c = true := by
  rw [pairLeBy_iff h] at *
  rcases hab with h1 | ⟨e1, l1⟩ <;> rcases hbc with h2 | ⟨e2, l2⟩
  · exact Or.inl (h.trans _ _ _ h1 h2)
  · exact Or.inl (e2 ▸ h1)
  · exact Or.inl (e1 ▸ h2)
  · exact Or.inr ⟨e1.trans e2, Nat.le_trans l1 l2⟩

theorem pairLeBy_total {lt : κ → κ → Bool} (h : StrictTotal lt) (a b : κ × Nat) :
    (pairLeBy lt a b || pairLeBy lt b a) = true := by
  rw [Bool.or_eq_true, pairLeBy_iff h, pairLeBy_iff h]
  by_cases he : a.1 = b.1
  · rcases Nat.le_total a.2 b.2 with hl | hl
    · exact Or.inl (Or.inr ⟨he, hl⟩)
    · exact Or.inr (Or.inr ⟨he.symm, hl⟩)
  · rcases h.total _ _ he with hl | hl
    · exact Or.inl (Or.inl hl)
    · exact Or.inr (Or.inl hl)

def sortedPairs (lt : κ → κ → Bool) (ks : List κ) : List (κ × Nat) :=
  (ks.zipIdx).mergeSort (pairLeBy lt)

theorem sortOrderBy_true (lt : κ → κ → Bool) (ks : List κ) :
    sortOrderBy lt ks true = (sortOrderBy lt ks false).reverse :=
  List.map_reverse

theorem sortedPairs_perm (lt : κ → κ → Bool) (ks : List κ) :
    (sortedPairs lt ks).Perm ks.zipIdx := List.mergeSort_perm _ _

theorem mem_sortedPairs {lt : κ → κ → Bool} {ks : List κ} {p : κ × Nat} :
    p ∈ sortedPairs lt ks ↔ ks[p.2]? = some p.1 := by
  rw [(sortedPairs_perm lt ks).mem_iff, List.mem_zipIdx_iff_getElem?]

theorem zipIdx_map_snd_range {α} (l : List α) : l.zipIdx.map (·.2) = List.range l.length := by
  rw [List.range_eq_range']; exact List.zipIdx_map_snd 0 l

theorem sortedPairs_snd_perm (lt : κ → κ → Bool) (ks : List κ) :
    ((sortedPairs lt ks).map (·.2)).Perm (List.range ks.length) :=
  zipIdx_map_snd_range ks ▸ (sortedPairs_perm lt ks).map (·.2)

theorem sortedPairs_pairwise {lt : κ → κ → Bool} (h : StrictTotal lt) (ks : List κ) :
    (sortedPairs lt ks).Pairwise (fun a b => pairLeBy lt a b = true) :=
  List.pairwise_mergeSort (pairLeBy_trans h) (pairLeBy_total h) _

theorem sortedPairs_snd_nodup (lt : κ → κ → Bool) (ks : List κ) :
    (sortedPairs lt ks).Pairwise (fun a b => a.2 ≠ b.2) := by
  have : ((sortedPairs lt ks).map (·.2)).Nodup :=
    (sortedPairs_snd_perm lt ks).nodup_iff.mpr List.nodup_range
  exact List.pairwise_map.mp this

theorem sortOrderBy_sorted [Inhabited κ] {lt : κ → κ → Bool} (h : StrictTotal lt) (ks : List κ) :
    (sortOrderBy lt ks false).Pairwise
      (fun i j => lt (ks[j]!) (ks[i]!) = false ∧ (ks[i]! = ks[j]! → i < j)) := by
  show ((sortedPairs lt ks).map (·.2)).Pairwise _
  rw [List.pairwise_map]
  refine List.Pairwise.imp_of_mem ?_
    ((sortedPairs_pairwise h ks).and (sortedPairs_snd_nodup lt ks))
  intro a b ha hb hab
  obtain ⟨hle, hne⟩ := hab
  rw [List.getElem!_of_getElem? (mem_sortedPairs.mp ha), List.getElem!_of_getElem? (mem_sortedPairs.mp hb)]
  rw [pairLeBy_iff h] at hle
  rcases hle with hlt | ⟨he, hl⟩
  · refine ⟨h.asymm hlt, ?_⟩
    intro he; rw [he, h.irrefl] at hlt; cases hlt
  · exact ⟨by rw [he]; exact h.irrefl _, fun _ => Nat.lt_of_le_of_ne hl hne⟩

theorem sortOrderBy_sorted_reverse [Inhabited κ] {lt : κ → κ → Bool} (h : StrictTotal lt) (ks : List κ) :
    (sortOrderBy lt ks true).Pairwise
      (fun i j => lt (ks[i]!) (ks[j]!) = false ∧ (ks[i]! = ks[j]! → j < i)) := by
  rw [sortOrderBy_true, List.pairwise_reverse]
  exact (sortOrderBy_sorted h ks).imp (fun ⟨h1, h2⟩ => ⟨h1, fun e => h2 e.symm⟩)

theorem intLt_strictTotal : StrictTotal intLt where
  irrefl a := decide_eq_false (Int.lt_irrefl a)
  trans _ _ _ h1 h2 := decide_eq_true (Int.lt_trans (of_decide_eq_true h1) (of_decide_eq_true h2))
  total _ _ hne := (Int.lt_or_gt_of_ne hne).imp decide_eq_true decide_eq_true

theorem strLt_strictTotal : StrictTotal strLt where
  irrefl a := by simp [strLt]
  trans a b c := by simp only [strLt, decide_eq_true_eq]; exact String.lt_trans
  total a b := by
    simp only [strLt, decide_eq_true_eq]
    intro hne
    by_cases h : a < b
    · exact Or.inl h
    · by_cases h' : b < a
      · exact Or.inr h'
      · exact absurd (String.le_antisymm (String.not_lt.mp h') (String.not_lt.mp h)) hne

end SortSec

/-! ## `groupby` -/

def groupFold (l : List (SKey × Nat)) (acc : List (SKey × List Nat)) : List (SKey × List Nat) :=
  l.foldl (fun acc (g, i) => groupInsert g i acc) acc

theorem groupIndices_eq (gs : List SKey) : groupIndices gs = groupFold gs.zipIdx [] := rfl

theorem groupFold_cons (g : SKey) (i : Nat) (l : List (SKey × Nat)) (acc : List (SKey × List Nat)) :
    groupFold ((g, i) :: l) acc = groupFold l (groupInsert g i acc) := rfl

theorem groupInsert_cons (g : SKey) (i : Nat) (g' : SKey) (is : List Nat)
    (rest : List (SKey × List Nat)) :
    groupInsert g i ((g', is) :: rest) =
      if g' = g then (g', is ++ [i]) :: rest else (g', is) :: groupInsert g i rest := rfl

theorem groupInsert_flatten_perm (g : SKey) (i : Nat) (acc : List (SKey × List Nat)) :
    (((groupInsert g i acc).map (·.2)).flatten).Perm (i :: ((acc.map (·.2)).flatten)) := by
  induction acc with
  | nil => exact .refl _
  | cons p rest ih =>
    rw [groupInsert_cons]
    split
    · rw [List.map_cons, List.map_cons, List.flatten_cons, List.append_assoc]
      exact List.perm_middle
    · exact (ih.append_left p.2).trans List.perm_middle

theorem groupFold_flatten_perm (l : List (SKey × Nat)) (acc : List (SKey × List Nat)) :
    (((groupFold l acc).map (·.2)).flatten).Perm (((acc.map (·.2)).flatten) ++ l.map (·.2)) := by
  induction l generalizing acc with
  | nil => rw [List.map_nil, List.append_nil]; exact .refl _
  | cons p l ih =>
    exact (ih _).trans (((groupInsert_flatten_perm p.1 p.2 acc).append_right _).trans
      List.perm_middle.symm)

theorem groupInsert_ids (g : SKey) (i : Nat) (acc : List (SKey × List Nat)) :
    (groupInsert g i acc).map (·.1)
      = if g ∈ acc.map (·.1) then acc.map (·.1) else acc.map (·.1) ++ [g] := by
  induction acc with
  | nil => exact (if_neg List.not_mem_nil).symm
  | cons p rest ih =>
    rw [groupInsert_cons, List.map_cons]
    by_cases h : p.1 = g
    · rw [if_pos h, if_pos (h ▸ List.mem_cons_self ..)]; rfl
    · rw [if_neg h, List.map_cons, ih]
      by_cases hm : g ∈ rest.map (·.1)
      · rw [if_pos hm, if_pos (List.mem_cons_of_mem _ hm)]
      · rw [if_neg hm, if_neg (fun hc => (List.mem_cons.1 hc).elim (fun e => h e.symm) hm)]; rfl

theorem groupInsert_nodup (g : SKey) (i : Nat) (acc : List (SKey × List Nat))
    (h : (acc.map (·.1)).Nodup) : ((groupInsert g i acc).map (·.1)).Nodup := by
  rw [groupInsert_ids]
  split
  · exact h
  · rename_i hg
    exact List.nodup_append.2 ⟨h, List.pairwise_singleton _ g, fun a ha b hb =>
      List.mem_singleton.1 hb ▸ fun e => hg (e ▸ ha)⟩

theorem mem_groupInsert {g : SKey} {i : Nat} {g' : SKey} {is' : List Nat}
    {acc : List (SKey × List Nat)} (h : (g', is') ∈ groupInsert g i acc) :
    (g', is') ∈ acc ∨ (g' = g ∧ (is' = [i] ∨ ∃ is, (g, is) ∈ acc ∧ is' = is ++ [i])) := by
  induction acc with
  | nil =>
    cases List.mem_singleton.1 h
    exact .inr ⟨rfl, .inl rfl⟩
  | cons p rest ih =>
    rw [groupInsert_cons] at h
    by_cases he : p.1 = g
    · rw [if_pos he] at h
      rcases List.mem_cons.1 h with h | h
      · cases h; exact .inr ⟨he, .inr ⟨p.2, he ▸ List.mem_cons_self .., rfl⟩⟩
      · exact .inl (List.mem_cons_of_mem _ h)
    · rw [if_neg he] at h
      rcases List.mem_cons.1 h with h | h
      · exact .inl (h ▸ List.mem_cons_self ..)
      · rcases ih h with h | ⟨e, h | ⟨is, hm, e'⟩⟩
        · exact .inl (List.mem_cons_of_mem _ h)
        · exact .inr ⟨e, .inl h⟩
        · exact .inr ⟨e, .inr ⟨is, List.mem_cons_of_mem _ hm, e'⟩⟩

/-- Invariant of the `groupby` loop after the tagged examples `done`: the members of a group,
    tagged with the group's id, are examples met so far, in the order met; one group per id. -/
structure GroupInv (done : List (SKey × Nat)) (acc : List (SKey × List Nat)) : Prop where
  sub : ∀ g is, (g, is) ∈ acc → (is.map (Prod.mk g)).Sublist done
  nodup : (acc.map (·.1)).Nodup

theorem GroupInv.step {done : List (SKey × Nat)} {acc : List (SKey × List Nat)}
    (h : GroupInv done acc) (g : SKey) (i : Nat) :
    GroupInv (done ++ [(g, i)]) (groupInsert g i acc) where
  sub g' is' hm := by
    rcases mem_groupInsert hm with hm | ⟨rfl, rfl | ⟨is, hm', rfl⟩⟩
    · exact (h.sub _ _ hm).trans (List.sublist_append_left ..)
    · exact List.sublist_append_right ..
    · rw [List.map_append]; exact (h.sub _ _ hm').append (List.Sublist.refl _)
  nodup := groupInsert_nodup g i acc h.nodup

theorem GroupInv.fold {done : List (SKey × Nat)} {acc : List (SKey × List Nat)}
    (h : GroupInv done acc) (l : List (SKey × Nat)) : GroupInv (done ++ l) (groupFold l acc) := by
  induction l generalizing done acc with
  | nil => rwa [List.append_nil]
  | cons p l ih => rw [List.append_cons]; exact ih (h.step p.1 p.2)

theorem groupIndices_inv (gs : List SKey) : GroupInv gs.zipIdx (groupIndices gs) :=
  GroupInv.fold (done := []) ⟨fun _ _ h => absurd h List.not_mem_nil, .nil⟩ gs.zipIdx

end LazyDs.ShardSort
