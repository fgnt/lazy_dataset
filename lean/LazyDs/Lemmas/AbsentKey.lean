import LazyDs.Lemmas.RelIntersperse
import LazyDs.Lemmas.ResRel
/-
  Key lookup of an absent key (part of property C03).

  `AbsentErr d`: whenever `d` has a key table, looking up a key that the table does not list raises.
  The statement is about the model of the lazy code (`DS`, `LazyDs/Model/Stage.lean`): it is proved
  stage by stage where it holds, and refuted for `SliceDataset` (known defect F15) and for an
  `IntersperseDataset` whose order table does not cover its parts (never built by the constructor).
-/
namespace LazyDs

def AbsentErr (d : DS) : Prop :=
  ∀ ks, d.keys = .ok ks → ∀ k, k ∉ ks → ∃ e, d.getKey k = .error e

theorem AbsentErr.of_keys_error {d : DS} {e : Err} (h : d.keys = .error e) : AbsentErr d :=
  fun _ hks => by rw [h] at hks; cases hks

theorem dictLookup_absent (kvs : List (String × Val)) (k : String) (h : k ∉ kvs.map (·.1)) :
    dictLookup kvs k = .error .keyError := by
  rw [dictLookup_eq, Assoc.lookup_eq_none_iff.2 h]; rfl

/-- `DictDataset`: `self.examples[key]` raises `KeyError` (no distinctness of keys needed) -/
theorem AbsentErr.dictSrc (kvs : List (String × Val)) : AbsentErr (dictSrc kvs) := by
  intro ks hks k hk
  cases hks
  exact ⟨.keyError, dictLookup_absent kvs k hk⟩

theorem absent_dictSrc (kvs : List (String × Val)) (_hn : (kvs.map (·.1)).Nodup) : AbsentErr (dictSrc kvs) :=
  AbsentErr.dictSrc kvs

theorem absent_listSrc (xs : List Val) : AbsentErr (listSrc xs) := .of_keys_error rfl

/-! ### stages that forward the lookup -/

theorem absent_map (f : Val → Res Val) {d : DS} (h : AbsentErr d) : AbsentErr (mapDS f d) := by
  intro ks hks k hk
  obtain ⟨e, he⟩ := h ks hks k hk
  exact ⟨e, show d.getKey k >>= f = _ by rw [he, error_bind]⟩

theorem absent_parMap (f : Val → Res Val) (b : Nat) {d : DS} (h : AbsentErr d) : AbsentErr (parMapDS f b d) :=
  absent_map f h

theorem absent_cycle {d : DS} (h : AbsentErr d) : AbsentErr (cycleDS d) := h

/-! ### stages that go through `keys().index(key)` -/

theorem keyIndex_absent (ks : List String) (k : String) (h : k ∉ ks) : keyIndex ks k = .error .valueError := by
  have hf : ks.findIdx? (· == k) = none :=
    List.findIdx?_eq_none_iff.2 fun x hx => Bool.eq_false_iff.2 fun hc => h (eq_of_beq hc ▸ hx)
  rw [keyIndex, hf]

theorem index_absent {α} {keys : Res (List String)} {ks : List String} {k : String} (hks : keys = .ok ks)
    (hk : k ∉ ks) (f : Nat → Res α) : (keys >>= fun ks => keyIndex ks k >>= f) = .error .valueError := by
  rw [hks, ok_bind, keyIndex_absent ks k hk, error_bind]

theorem absent_items (d : DS) : AbsentErr (itemsDS d) :=
  fun _ hks _ hk => ⟨.valueError, index_absent hks hk _⟩

theorem absent_cache (d : DS) : AbsentErr (cacheDS d) :=
  fun _ hks _ hk => ⟨.valueError, index_absent hks hk _⟩

/-! ### concatenation and intersperse: `KeyError` after the search -/

theorem firstWithKey_none (k : String) : ∀ (ds : List DS),
    (∀ d ∈ ds, ∃ kl, d.keys = .ok kl ∧ k ∉ kl) → firstWithKey ds k = none
  | [], _ => rfl
  | d :: ds, h => by
    obtain ⟨kl, hkl, hk⟩ := h d (List.mem_cons_self ..)
    rw [firstWithKey, hkl]
    show (if kl.contains k = true then _ else _) = _
    rw [if_neg fun hc => hk (List.contains_iff_mem.1 hc)]
    exact firstWithKey_none k ds fun d' hd' => h d' (List.mem_cons_of_mem _ hd')

/-- the shape that `__getitem__(str)` has in `ConcatenateDataset` and in `IntersperseDataset`: the key
    table is computed, the parts are searched, and `KeyError` is raised when the loop ends -/
theorem search_absent {keys : Res (List String)} {ks : List String} (hks : keys = .ok ks) {ds : List DS}
    {k : String} (h : ∀ d ∈ ds, ∃ kl, d.keys = .ok kl ∧ k ∉ kl) :
    (keys >>= fun _ => match firstWithKey ds k with | some r => r | none => .error .keyError)
      = .error .keyError := by
  rw [hks, ok_bind, firstWithKey_none k ds h]

/-- nothing about the parts is needed: a key that the flattened table does not list is listed by no part -/
theorem AbsentErr.concat (ds : List DS) : AbsentErr (concatDS ds) := by
  intro ks hks k hk
  refine ⟨.keyError, search_absent hks fun d hd => ?_⟩
  have hk2 : concatKeys ds = .ok ks := hks
  simp only [concatKeys, concatKeysRaw_eq_mapM, bind_eq_ok, ite_error_eq_ok, Except.ok.injEq] at hk2
  obtain ⟨_, ⟨kss, hm, rfl⟩, _, rfl⟩ := hk2
  obtain ⟨kl, hkl, hdk⟩ := List.mapM_ok_of_mem hm hd
  exact ⟨kl, hdk, fun hx => hk (List.mem_flatten.2 ⟨kl, hkl, hx⟩)⟩

theorem absent_concat (ds : List DS) (_h : ∀ d ∈ ds, AbsentErr d) : AbsentErr (concatDS ds) :=
  AbsentErr.concat ds

/-! ### intersperse (defect F1 is about this `__getitem__(str)`: `KeyError`, not `return None`)

  `IntersperseDataset.keys()` lists `keys[e.d][e.j]` along the order table, while `__getitem__(str)`
  searches the parts.  The two agree on which keys exist only if the table covers every position of
  every part; `intersperseOrder` does (`absent_mkIntersperse`), an arbitrary table does not
  (`absent_intersperse_counterexample`). -/

theorem absent_intersperse_partial (ds : List DS) (order : List OrdEntry)
    (hcov : ∀ i d, ds[i]? = some d → ∀ kl, d.keys = .ok kl → ∀ j, j < kl.length →
      ∃ e ∈ order, e.d = i ∧ e.j = j) :
    AbsentErr (intersperseDS ds order) := by
  intro ks hks k hk
  refine ⟨.keyError, search_absent hks fun d hd => ?_⟩
  have hk2 : intersperseKeys ds order = .ok ks := hks
  simp only [intersperseKeys, bind_eq_ok, ite_error_eq_ok, Except.ok.injEq] at hk2
  obtain ⟨kss, hm, _, ho, _, rfl⟩ := hk2
  obtain ⟨i, hi⟩ := List.getElem?_of_mem hd
  obtain ⟨kl, hkl, hdk⟩ := List.mapM_ok_of_getElem? hm hi
  refine ⟨kl, hdk, fun hmem => ?_⟩
  -- the table lists the position of `k` in part `i`, so the key table lists `k`
  obtain ⟨j, hj, hjk⟩ := List.getElem_of_mem hmem
  obtain ⟨e, he, hed, hej⟩ := hcov i d hi kl hdk j hj
  obtain ⟨b, hb, hfb⟩ := List.mapM_ok_of_mem ho he
  have : (Except.ok b : Res String) = .ok k := hfb.symm.trans <|
    (isp_keyAt_ok_iff kss e k).2 ⟨kl, hed ▸ hkl, by rw [hej, List.getElem?_eq_getElem hj, hjk]⟩
  exact hk (Except.ok.inj this ▸ hb)

theorem absent_intersperse_counterexample :
    (intersperseDS [dictSrc [("a", .int 1)]] []).keys = .ok [] ∧
    (intersperseDS [dictSrc [("a", .int 1)]] []).getKey "a" = .ok (.int 1) ∧
    ¬ AbsentErr (intersperseDS [dictSrc [("a", .int 1)]] []) := by
  refine ⟨rfl, rfl, fun h => ?_⟩
  obtain ⟨e, he⟩ := h [] rfl "a" List.not_mem_nil
  cases he

/-- what `IntersperseDataset.__init__` builds: the table covers the parts as soon as every part's
    key table has one key per position (C03 of the parts) -/
theorem absent_mkIntersperse (ds : List DS) (d : DS) (h : mkIntersperse ds = .ok d)
    (hlen : ∀ d' ∈ ds, ∀ kl n, d'.keys = .ok kl → d'.len = .ok n → kl.length = n) : AbsentErr d := by
  refine WhenOk.elim (P := AbsentErr) ?_ h
  unfold mkIntersperse
  refine .guard fun _ => .bind_eq fun lens hl => .guard fun _ => .ok ?_
  rw [allLens_eq_mapM] at hl
  refine absent_intersperse_partial _ _ fun i d' hi kl hkl j hj => ?_
  obtain ⟨n, hln, hn⟩ := List.mapM_ok_of_getElem? hl hi
  have hkn := hlen d' (List.mem_of_getElem? hi) kl n hkl hn
  exact ⟨⟨j + 1, n, i, j⟩, mem_order.2 ⟨hln, hkn ▸ hj, rfl⟩, rfl, rfl⟩

/-- `KeyZipDataset.__getitem__(str)` builds `tuple(ds[key] for ds in self.input_datasets)`; the key
    table is the first part's, and the first part is evaluated first -/
theorem absent_keyZip (ds : List DS) (hne : ds ≠ []) (h : AbsentErr ds.head!) : AbsentErr (keyZipDS ds) := by
  cases ds with
  | nil => exact absurd rfl hne
  | cons d rest =>
    intro ks hks k hk
    obtain ⟨e, he⟩ : ∃ e, d.getKey k = .error e := h ks hks k hk
    refine ⟨e, ?_⟩
    show tupleGet (d :: rest) (·.getKey k) = _
    simp only [tupleGet, List.mapM_cons, he, error_bind]

/-! ### stages without a key table -/

theorem absent_filter (f : Val → Res Bool) (d : DS) : AbsentErr (filterDS f d) := .of_keys_error rfl

theorem absent_catch (E : List Err) (d : DS) : AbsentErr (catchDS E d) := .of_keys_error rfl

theorem absent_batch (bs : Nat) (dropLast : Bool) (d : DS) : AbsentErr (batchDS bs dropLast d) := .of_keys_error rfl

theorem absent_zip (ds : List DS) : AbsentErr (zipDS ds) := .of_keys_error rfl

theorem absent_unbatch (d : DS) : AbsentErr (unbatchDS d) := .of_keys_error rfl

theorem absent_prefetch (w : Nat) (t : Bool) (ce : Option (List Err)) (d : DS) :
    AbsentErr (prefetchDS w t ce d) := .of_keys_error rfl

/-! ### slices: the statement fails (known defect F15)

  `SliceDataset.__getitem__(str)` forwards to its input without consulting the selection, so a key
  that the slice does not list is still found. -/

theorem absent_slice_counterexample :
    (sliceDS [1] (dictSrc [("a", .int 1), ("b", .int 2)])).keys = .ok ["b"] ∧
    (sliceDS [1] (dictSrc [("a", .int 1), ("b", .int 2)])).getKey "a" = .ok (.int 1) ∧
    AbsentErr (dictSrc [("a", .int 1), ("b", .int 2)]) ∧
    ¬ AbsentErr (sliceDS [1] (dictSrc [("a", .int 1), ("b", .int 2)])) := by
  refine ⟨rfl, rfl, AbsentErr.dictSrc _, fun h => ?_⟩
  obtain ⟨e, he⟩ := h ["b"] rfl "a" (by decide)
  cases he

/-- what does hold for a slice: a key that the INPUT does not list raises -/
theorem absent_slice_partial (sel : List Nat) {d : DS} (h : AbsentErr d) :
    ∀ ks0, d.keys = .ok ks0 → ∀ k, k ∉ ks0 → ∃ e, (sliceDS sel d).getKey k = .error e :=
  fun ks0 hks0 k hk => h ks0 hks0 k hk

end LazyDs
