import LazyDs.Lemmas.Sound
/-
  The CONVERSE of `build_ref` for construction-time errors, read off `build_sim`: the lazy pipeline
  refuses to be constructed exactly when the eager reference refuses, and (outside one documented
  corner) with the same exception class.

  The corner: `ds.filter(f)[spec]` and `ds.filter(f).sort(key)` hit the `assert` of
  `FilterDataset.__getitem__` (`AssertionError`) in the model, whereas the reference only knows
  that the input is not indexable (`RuntimeError`).  `build_err_ref_gen` proves that this is the ONLY
  way the two error classes can differ, `build_err_ref_partial` excludes it through `AdmErr`, and
  `build_err_ref_counterexample` shows that the excluded case really differs.

  `BInv`, `AdmErr` and the induction itself (`build_sim`, `build_whenOk_inv`) are in `Lemmas/Sound.lean`,
  because success and refusal are proved together; `build_inv` is the invariant as it is quoted.
-/
namespace LazyDs

theorem build_inv (ρ : Env) : (p : Pipeline) → ∀ d, build ρ p = .ok d → BInv d :=
  fun p _ h => (build_whenOk_inv ρ p).elim h

theorem buildAll_inv (ρ : Env) : (ps : Pipelines) → ∀ ds, buildAll ρ ps = .ok ds → ∀ d ∈ ds, BInv d :=
  fun ps _ h => (buildAll_whenOk_inv ρ ps).elim h

theorem build_err_ref_gen (ρ : Env) (hρ : EnvOK ρ) :
    (p : Pipeline) → Adm ρ p → ∀ e, build ρ p = .error e →
      ref ρ p = .error e ∨ (¬ AdmErr ρ p ∧ e = .assertionError ∧ ref ρ p = .error .runtimeError) :=
  fun p ha _ h => (build_sim ρ hρ p ha).err_of h

theorem build_err_ref_partial (ρ : Env) (hρ : EnvOK ρ) (p : Pipeline) (ha : Adm ρ p) (hae : AdmErr ρ p)
    (e : Err) (h : build ρ p = .error e) : ref ρ p = .error e :=
  ((build_sim ρ hρ p ha).error_iff (.inl hae)).1 h

theorem buildAll_err_ref_partial (ρ : Env) (hρ : EnvOK ρ) (ps : Pipelines) (ha : AdmAll ρ ps)
    (hae : AdmErrAll ρ ps) (e : Err) (h : buildAll ρ ps = .error e) : refAll ρ ps = .error e :=
  ((buildAll_sim ρ hρ ps ha).error_iff (.inl hae)).1 h

/-! ### the excluded corner really differs (for EVERY interpretation `ρ` of the user functions) -/

/-- `ds.filter(f)[[]]`: the model (like the Python code) raises the `AssertionError` of
    `FilterDataset.__getitem__`, the reference the `RuntimeError` of a non-indexable input.  The pipeline
    is admissible, so `build_err_ref_partial` is false without `AdmErr`. -/
theorem build_err_ref_counterexample (ρ : Env) :
    let p : Pipeline := .slice (.idx []) (.filterLazy (.always true) (.listSrc [.int 1]))
    Adm ρ p ∧ ¬ AdmErr ρ p ∧ build ρ p = .error .assertionError ∧ ref ρ p = .error .runtimeError := by
  refine ⟨trivial, ?_, rfl, rfl⟩
  intro h
  have := h.2 _ rfl
  cases this

/-- `ds.filter(f).sort(key)` on an input whose examples all have a key: same difference. -/
theorem build_err_ref_counterexample_sort (ρ : Env) :
    let p : Pipeline := .sort (some .identity) false (.filterLazy (.always true) (.listSrc []))
    Adm ρ p ∧ ¬ AdmErr ρ p ∧ build ρ p = .error .assertionError ∧ ref ρ p = .error .runtimeError := by
  refine ⟨trivial, ?_, rfl, rfl⟩
  intro h
  have := h.2 rfl _ rfl
  cases this

end LazyDs
