import LazyDs.Lemmas.RelConcat
import LazyDs.Lemmas.IspOrder
/-
  IntersperseDataset and KeyZipDataset, on the order table of `Lemmas/IspOrder.lean`: the refinement
  (`Rel`) of `intersperseDS` / `keyZipDS`, then the well-formedness (`RefWF2`) of their references.
-/
namespace LazyDs

open List (Forall₂)

/-! ## refinement -/

theorem isp_keyAt_ok_iff (kss : List (List String)) (e : OrdEntry) (k : String) :
    (do let kl ← pyIndex kss (e.d : Int); pyIndex kl (e.j : Int)) = (Except.ok k : Res String) ↔
      ∃ kl, kss[e.d]? = some kl ∧ kl[e.j]? = some k := by
  cases h : pyIndex kss (e.d : Int) with
  | error er =>
    constructor
    · intro hc; cases hc
    · rintro ⟨kl, h1, _⟩
      rw [(pyIndex_nat_ok_iff kss e.d kl).2 h1] at h
      cases h
  | ok kl =>
    rw [ok_bind, pyIndex_nat_ok_iff]
    have h' := (pyIndex_nat_ok_iff kss e.d kl).1 h
    constructor
    · intro hk; exact ⟨kl, h', hk⟩
    · rintro ⟨kl', h1, h2⟩
      rw [h'] at h1
      injection h1 with h1
      subst h1
      exact h2

theorem isp_keys_eq_ok {rs : List RefDS} {order : List OrdEntry} {ks : List String} :
    (Ref.intersperse rs order).keys = .ok ks ↔
      ∃ kss, rs.mapM (·.keys) = .ok kss ∧ order.mapM (fun e => do let kl ← pyIndex kss (e.d : Int); pyIndex kl (e.j : Int)) = .ok ks ∧ hasDup ks = false := by
  simp only [Ref.intersperse, bind_eq_ok, ite_error_eq_ok, Bool.not_eq_true, Except.ok.injEq]
  constructor
  · rintro ⟨kss, hm, ks', ho, hd, rfl⟩; exact ⟨kss, hm, ho, hd⟩
  · rintro ⟨kss, hm, ho, hd⟩; exact ⟨kss, hm, ks, ho, hd, rfl⟩

theorem sized_intersperse (rs : List RefDS) (order : List OrdEntry) : Sized (Ref.intersperse rs order) := by
  have ho : (Ref.intersperse rs order).outs.length = order.length := List.length_map _
  refine ⟨fun _ => by rw [ho]; rfl, fun _ ks hk => ?_⟩
  obtain ⟨kss, _, hm, _⟩ := isp_keys_eq_ok.1 hk
  rw [ho, List.mapM_ok_length hm]

theorem firstWithKey_first : ∀ (ds : List DS) (kss : List (List String)), ds.mapM (·.keys) = .ok kss →
    ∀ (i : Nat) (k : String) (kl : List String), kss[i]? = some kl → k ∈ kl →
    (∀ i', i' < i → ∀ kl', kss[i']? = some kl' → k ∉ kl') →
    ∃ d, ds[i]? = some d ∧ firstWithKey ds k = some (d.getKey k)
  | [], kss, hm, i, k, kl, hki, _, _ => by cases hm; cases hki
  | d :: ds, kss, hm, i, k, kl, hki, hmem, hbefore => by
    cases kss with
    | nil => rw [List.mapM_eq_ok_iff] at hm; cases hm
    | cons b bs =>
      rw [List.mapM_cons_eq_ok_iff] at hm
      rw [firstWithKey, hm.1]
      dsimp only
      cases i with
      | zero => cases hki; rw [if_pos (List.contains_iff_mem.2 hmem)]; exact ⟨d, rfl, rfl⟩
      | succ i =>
        rw [if_neg fun hc => hbefore 0 (Nat.succ_pos i) b rfl (List.contains_iff_mem.1 hc)]
        exact firstWithKey_first ds bs hm.2 i k kl hki hmem
          fun i' hi' kl' hkl' => hbefore (i' + 1) (Nat.succ_lt_succ hi') kl' hkl'

/-- Besides the two range conditions on the table, `getKey` needs that the table covers the parts:
    every position of every part occurs in the table (see `rel_intersperse_counterexample`).
    `intersperseOrder lens` has all three properties (`rel_intersperse_order`). -/
theorem rel_intersperse_partial {ds : List DS} {rs : List RefDS} {order : List OrdEntry}
    (h : Forall₂ Rel ds rs)
    (hord : ∀ e ∈ order, e.d < rs.length ∧
      (∀ r, rs[e.d]? = some r → r.indexable = true → e.j < r.outs.length))
    (hcov : ∀ i r, rs[i]? = some r → r.indexable = true → ∀ j, j < r.outs.length →
      ∃ e ∈ order, e.d = i ∧ e.j = j) :
    Rel (intersperseDS ds order) (Ref.intersperse rs order) := by
  have hpart : ∀ e ∈ order, ∃ d r, ds[e.d]? = some d ∧ rs[e.d]? = some r ∧ Rel d r := by
    intro e he
    have hr := List.getElem?_eq_getElem (hord e he).1
    obtain ⟨d, hd, hrel⟩ := h.of_getElem?_right hr
    exact ⟨d, _, hd, hr, hrel⟩
  have hmk := h.mapM_eq fun _ _ hr => hr.keys
  have hkeys : intersperseKeys ds order = (Ref.intersperse rs order).keys := by
    simp only [intersperseKeys, Ref.intersperse, hmk]
  have hzero : ds.map (fun _ => 0) = rs.map fun _ => 0 := h.map_eq fun _ _ _ => rfl
  refine
    { indexable := h.all_eq fun _ _ hr => hr.indexable, len := rfl, keys := hkeys,
      iter := ?_, iterK := ?_, idx := ?_, noIdxErr := ?_, keysLen := ?_, getKey := ?_ }
  · simp only [intersperseDS, Ref.intersperse, h.map_eq fun _ _ hr => hr.iter, hzero]
  · simp only [intersperseDS, Ref.intersperse, h.map_eq fun _ _ hr => hr.iterK, hzero]
  · intro hix
    have hi := all_indexable_mem hix
    refine ⟨(sized_intersperse rs order).lenOuts hix, fun i => ?_⟩
    simp only [intersperseDS, Ref.intersperse, outAt, pyIndex_map]
    cases hp : pyIndex order i with
    | error er => rfl
    | ok e =>
      obtain ⟨d, r, hd, hr, hrel⟩ := hpart e (pyIndex_ok_mem order i e hp)
      simp only [ok_bind, (pyIndex_nat_ok_iff ds e.d d).2 hd, Except.map, hr]
      exact (hrel.idx (hi r (List.mem_of_getElem? hr))).2 e.j
  · intro hix o ho
    simp only [Ref.intersperse, List.mem_map] at ho
    obtain ⟨e, he, rfl⟩ := ho
    obtain ⟨d, r, hd, hr, hrel⟩ := hpart e he
    have hri := all_indexable_mem hix r (List.mem_of_getElem? hr)
    have hj := (hord e he).2 r hr hri
    simp only [hr]
    rw [outAt_lt r.outs e.j hj]
    exact hrel.noIdxErr hri _ (List.getElem_mem hj)
  · exact (sized_intersperse rs order).keysLen
  · intro hix ks hk j hj
    have hi := all_indexable_mem hix
    obtain ⟨kss, hm, ho, hnd⟩ := isp_keys_eq_ok.1 hk
    have hnd := (hasDup_eq_false_iff _).1 hnd
    have hlen := List.mapM_ok_length ho
    have hkey : ∀ t (ht : t < order.length) (ht' : t < ks.length),
        ∃ kl, kss[order[t].d]? = some kl ∧ kl[order[t].j]? = some ks[t] := fun t ht ht' =>
      (isp_keyAt_ok_iff kss order[t] ks[t]).1 (List.mapM_ok_getElem ho ht ht')
    have hjo : j < order.length := hlen ▸ hj
    obtain ⟨d, r, hd, hr, hrel⟩ := hpart _ (List.getElem_mem hjo)
    have hri := hi r (List.mem_of_getElem? hr)
    obtain ⟨kl, hkl, hkj⟩ := hkey j hjo hj
    obtain ⟨kl0, hkl0, hrk⟩ := List.mapM_ok_of_getElem? hm hr
    rw [hkl] at hkl0; cases hkl0
    obtain ⟨hjl, hkj⟩ := List.getElem?_eq_some_iff.1 hkj
    -- no earlier part lists that key: the table covers it, and the table's keys are distinct
    have hbefore : ∀ i', i' < order[j].d → ∀ kl', kss[i']? = some kl' → ks[j] ∉ kl' := by
      intro i' hi' kl' hkl' hmem
      obtain ⟨j', hj', hkj'⟩ := List.getElem_of_mem hmem
      have hi'lt : i' < rs.length :=
        List.mapM_ok_length hm ▸ (List.getElem?_eq_some_iff.1 hkl').1
      have hr' := List.getElem?_eq_getElem hi'lt
      obtain ⟨kl'', hkl'', hrk'⟩ := List.mapM_ok_of_getElem? hm hr'
      rw [hkl'] at hkl''; cases hkl''
      have hri' := hi rs[i'] (List.getElem_mem hi'lt)
      obtain ⟨d', _, hrel'⟩ := h.of_getElem?_right hr'
      obtain ⟨e', he', hd', hj''⟩ := hcov i' _ hr' hri' j' (hrel'.keysLen hri' kl' hrk' ▸ hj')
      obtain ⟨t', ht', rfl⟩ := List.getElem_of_mem he'
      obtain ⟨kl2, hk21, hk22⟩ := hkey t' ht' (hlen ▸ ht')
      rw [hd', hkl'] at hk21; cases hk21
      rw [hj'', List.getElem?_eq_getElem hj', hkj'] at hk22
      have htj : t' = j := (List.getElem_inj hnd).1 (Option.some.inj hk22).symm
      subst htj
      exact Nat.lt_irrefl _ (hd' ▸ hi')
    obtain ⟨d2, hd2, hfw⟩ := firstWithKey_first ds kss (hmk.trans hm) order[j].d ks[j] kl hkl
      (hkj ▸ List.getElem_mem hjl) hbefore
    rw [hd] at hd2; cases hd2
    simp only [intersperseDS, hkeys.trans hk, ok_bind, hfw]
    rw [← hkj, hrel.getKey hri kl hrk order[j].j hjl]
    simp only [Ref.intersperse]
    rw [outAt_lt _ j (by simpa using hjo)]
    simp only [List.getElem_map, hr]

/-- the table that `IntersperseDataset.__init__` builds from the reported lengths satisfies the side
    conditions of `rel_intersperse_partial` -/
theorem rel_intersperse_order {ds : List DS} {rs : List RefDS} {lens : List Nat}
    (h : Forall₂ Rel ds rs) (hl : Ref.allLens rs = .ok lens) :
    Rel (intersperseDS ds (intersperseOrder lens)) (Ref.intersperse rs (intersperseOrder lens)) := by
  rw [ref_allLens_eq_mapM] at hl
  have hn : ∀ (i : Nat) (r : RefDS), rs[i]? = some r → r.indexable = true →
      lens[i]? = some r.outs.length := by
    intro i r hr hri
    obtain ⟨d, _, hrel⟩ := h.of_getElem?_right hr
    have := List.mapM_ok_getElem? hl i
    rw [hr, Option.map_some, (hrel.idx hri).1] at this
    obtain ⟨n, hn, he⟩ := Option.map_eq_some_iff.1 this.symm
    cases he; exact hn
  refine rel_intersperse_partial h (fun e he => ?_) fun i r hr hri j hj => ?_
  · obtain ⟨h1, h2, _⟩ := mem_order.1 he
    refine ⟨?_, fun r hr hri => ?_⟩
    · rw [← List.mapM_ok_length hl]; exact (List.getElem?_eq_some_iff.1 h1).1
    · rw [hn e.d r hr hri] at h1; exact (Option.some.inj h1) ▸ h2
  · exact ⟨⟨j + 1, r.outs.length, i, j⟩, mem_order.2 ⟨hn i r hr hri, hj, rfl⟩, rfl, rfl⟩

/-! ### why `rel_intersperse_partial` needs the coverage hypothesis

  `IntersperseDataset.__getitem__(str)` asks the parts in turn (`firstWithKey`) and does not look at the
  order table.  With a table that leaves out a position whose key also occurs in a later, listed,
  position, the key table of the interspersed dataset is duplicate-free, yet the lookup answers from the
  part that is NOT in the table.  (`intersperseOrder` always lists every position, so the Python class
  is not affected.) -/

def ispCexDs : List DS := [dictSrc [("x", .int 1)], dictSrc [("x", .int 2)]]
def ispCexRs : List RefDS := [Ref.dictSrc [("x", .int 1)], Ref.dictSrc [("x", .int 2)]]
def ispCexOrder : List OrdEntry := [⟨1, 1, 1, 0⟩]

theorem rel_intersperse_counterexample :
    Forall₂ Rel ispCexDs ispCexRs ∧
    (∀ e ∈ ispCexOrder, e.d < ispCexRs.length ∧
      (∀ r, ispCexRs[e.d]? = some r → r.indexable = true → e.j < r.outs.length)) ∧
    (Ref.intersperse ispCexRs ispCexOrder).indexable = true ∧
    (Ref.intersperse ispCexRs ispCexOrder).keys = .ok ["x"] ∧
    (intersperseDS ispCexDs ispCexOrder).getKey "x" = .ok (.int 1) ∧
    outAt (Ref.intersperse ispCexRs ispCexOrder).outs 0 = .ok (.int 2) ∧
    ¬ Rel (intersperseDS ispCexDs ispCexOrder) (Ref.intersperse ispCexRs ispCexOrder) := by
  have hk : (Ref.intersperse ispCexRs ispCexOrder).keys = .ok ["x"] := rfl
  have hg : (intersperseDS ispCexDs ispCexOrder).getKey "x" = .ok (.int 1) := rfl
  have ho : outAt (Ref.intersperse ispCexRs ispCexOrder).outs 0 = .ok (.int 2) := rfl
  refine ⟨?_, ?_, rfl, hk, hg, ho, ?_⟩
  · exact .cons (rel_dictSrc _ (by simp)) (.cons (rel_dictSrc _ (by simp)) .nil)
  · intro e he
    simp only [ispCexOrder, List.mem_singleton] at he
    subst he
    refine ⟨by simp [ispCexRs], ?_⟩
    intro r hr _
    simp only [ispCexRs, List.getElem?_cons_succ, List.getElem?_cons_zero, Option.some.injEq] at hr
    subst hr
    simp [Ref.dictSrc]
  · intro hrel
    have := hrel.getKey rfl ["x"] hk 0 (by simp)
    simp only [List.getElem_cons_zero] at this
    rw [hg] at this
    have ho' : outAt (Ref.intersperse ispCexRs ispCexOrder).outs ((0 : Nat) : Int) = .ok (.int 2) := ho
    rw [ho'] at this
    cases this

def kzRow (rs : List RefDS) (k : String) : Res Val := do
  let row ← rs.mapM (fun r => Ref.lookup r k)
  .ok (.tup row)

def kzRowK (rs : List RefDS) (k : String) : Res (String × Val) := do
  let row ← rs.mapM (fun r => Ref.lookup r k)
  .ok (k, Val.tup row)

theorem kzRowK_eq (rs : List RefDS) (k : String) :
    kzRowK rs k = (kzRow rs k >>= fun v => .ok (k, v)) := by
  unfold kzRowK kzRow
  cases rs.mapM (fun r => Ref.lookup r k) <;> rfl

theorem kz_outs (r0 : RefDS) (rs' : List RefDS) (ks0 : List String) (hk : r0.keys = .ok ks0) :
    (Ref.keyZip (r0 :: rs')).outs = ks0.map (kzRow (r0 :: rs')) := by
  simp only [Ref.keyZip, List.head!, hk]
  rfl

theorem kz_stream (r0 : RefDS) (rs' : List RefDS) (ks0 : List String) (hk : r0.keys = .ok ks0) :
    (Ref.keyZip (r0 :: rs')).stream = .ofOuts (ks0.map (kzRow (r0 :: rs'))) := by
  simp only [Ref.keyZip, List.head!, hk]
  rfl

theorem kz_kstream (r0 : RefDS) (rs' : List RefDS) (ks0 : List String) (hk : r0.keys = .ok ks0) :
    (Ref.keyZip (r0 :: rs')).kstream = .ofOuts (ks0.map (kzRowK (r0 :: rs'))) := by
  simp only [Ref.keyZip, List.head!, hk]
  rfl

theorem Ref.lookup_of_mem {r : RefDS} {ks : List String} (hk : r.keys = .ok ks) {k : String} (hmem : k ∈ ks) :
    ∃ (j : Nat) (hj : j < ks.length), ks[j] = k ∧ Ref.lookup r k = outAt r.outs (j : Int) := by
  obtain ⟨j, hj, hf, hkj⟩ := findIdx?_beq_of_mem hmem
  refine ⟨j, hj, hkj, ?_⟩
  rw [Ref.lookup, hk]
  dsimp only
  rw [hf]

theorem kz_getKey_lookup {d : DS} {r : RefDS} (h : Rel d r) (hi : r.indexable = true)
    (ks : List String) (hk : r.keys = .ok ks) (k : String) (hmem : k ∈ ks) :
    d.getKey k = Ref.lookup r k := by
  obtain ⟨j, hj, rfl, hl⟩ := Ref.lookup_of_mem hk hmem
  rw [hl, h.getKey hi ks hk j hj]

theorem kz_lookup_noIdxErr {d : DS} {r : RefDS} (h : Rel d r) (hi : r.indexable = true)
    (ks : List String) (hk : r.keys = .ok ks) (k : String) (hmem : k ∈ ks) :
    Ref.lookup r k ≠ .error .indexError := by
  obtain ⟨j, hj, _, hl⟩ := Ref.lookup_of_mem hk hmem
  rw [hl, outAt_lt r.outs j (h.keysLen hi ks hk ▸ hj)]
  exact h.noIdxErr hi _ (List.getElem_mem _)

theorem sameKeySets_mem {kss : List (List String)} (h : sameKeySets kss = true) :
    ∀ kl ∈ kss, ∀ kl' ∈ kss, ∀ k ∈ kl', k ∈ kl := by
  intro kl hkl kl' hkl' k hk
  simp only [sameKeySets, List.all_eq_true, List.contains_iff_mem] at h
  exact h kl hkl k (List.mem_flatten.2 ⟨kl', hkl', hk⟩)

theorem pyIndex_bind_eq_outAt_map {α} (l : List α) (f g : α → Res Val) (i : Int)
    (h : ∀ a, pyIndex l i = .ok a → f a = g a) :
    (do let a ← pyIndex l i; f a) = outAt (l.map g) i := by
  unfold outAt
  rw [pyIndex_map]
  cases hp : pyIndex l i with
  | error e => rfl
  | ok a => simp only [Except.map]; exact h a hp

theorem sized_keyZip_cons {r0 : RefDS} {rs' : List RefDS} (h0 : Sized r0) {ks0 : List String}
    (hk0 : r0.keys = .ok ks0) : Sized (Ref.keyZip (r0 :: rs')) := by
  refine ⟨fun hix => ?_, fun hix ks hks => ?_⟩
  · have hi0 : r0.indexable = true := all_indexable_mem hix r0 (by simp)
    rw [kz_outs r0 rs' ks0 hk0, List.length_map, h0.keysLen hi0 ks0 hk0]
    exact h0.lenOuts hi0
  · rw [kz_outs r0 rs' ks hks, List.length_map]

theorem rel_keyZip_cons {d0 : DS} {r0 : RefDS} {ds' : List DS} {rs' : List RefDS}
    (hr : Rel d0 r0) (ht : Forall₂ Rel ds' rs')
    (hi : ∀ r ∈ r0 :: rs', r.indexable = true)
    (hk : ∃ kss, (r0 :: rs').mapM (·.keys) = .ok kss ∧ sameKeySets kss = true) :
    Rel (keyZipDS (d0 :: ds')) (Ref.keyZip (r0 :: rs')) := by
  have h : Forall₂ Rel (d0 :: ds') (r0 :: rs') := .cons hr ht
  obtain ⟨kss, hm, hsame⟩ := hk
  have hk0 : ∃ ks0, r0.keys = .ok ks0 ∧ ks0 ∈ kss := by
    have := List.mapM_ok_getElem? hm 0
    obtain ⟨ks0, h1, h2⟩ := Option.map_eq_some_iff.1 this.symm
    exact ⟨ks0, h2.symm, List.mem_of_getElem? h1⟩
  obtain ⟨ks0, hk0, hks0⟩ := hk0
  have hdk0 : d0.keys = .ok ks0 := hr.keys.trans hk0
  have hsz := sized_keyZip_cons (rs' := rs') hr.sized hk0
  have hall : ∀ k ∈ ks0, ∀ r ∈ r0 :: rs', ∃ kl, r.keys = .ok kl ∧ k ∈ kl := by
    intro k hk r hr'
    obtain ⟨t, ht⟩ := List.getElem?_of_mem hr'
    have := List.mapM_ok_getElem? hm t
    rw [ht] at this
    obtain ⟨kl, h1, h2⟩ := Option.map_eq_some_iff.1 this.symm
    exact ⟨kl, h2.symm, sameKeySets_mem hsame kl (List.mem_of_getElem? h1) ks0 hks0 k hk⟩
  -- the key step: one row of the model is one row of the reference
  have hrow : ∀ k ∈ ks0, tupleGet (d0 :: ds') (fun d => d.getKey k) = kzRow (r0 :: rs') k := by
    intro k hk
    simp only [tupleGet, kzRow]
    rw [h.and_mem_right.mapM_eq fun d r hdr => ?_]
    obtain ⟨kl, hkl, hmem⟩ := hall k hk r hdr.2
    exact kz_getKey_lookup hdr.1 (hi r hdr.2) kl hkl k hmem
  have hrowK : ∀ k ∈ ks0,
      (do let v ← tupleGet (d0 :: ds') (fun d => d.getKey k); (Except.ok (k, v) : Res (String × Val)))
        = kzRowK (r0 :: rs') k := fun k hk => by rw [kzRowK_eq, hrow k hk]
  refine
    { indexable := h.all_eq fun _ _ hr => hr.indexable, len := hr.len, keys := hr.keys,
      iter := ?_, iterK := ?_, idx := fun hix => ⟨hsz.lenOuts hix, fun i => ?_⟩, noIdxErr := ?_,
      keysLen := hsz.keysLen, getKey := ?_ }
  · rw [kz_stream r0 rs' ks0 hk0]
    simp only [keyZipDS, List.head!, hdk0]
    exact congrArg _ (List.map_congr_left hrow)
  · rw [kz_kstream r0 rs' ks0 hk0]
    simp only [keyZipDS, List.head!, hdk0]
    exact congrArg _ (List.map_congr_left hrowK)
  · rw [kz_outs r0 rs' ks0 hk0]
    simp only [keyZipDS, List.head!, hdk0, ok_bind]
    exact pyIndex_bind_eq_outAt_map _ _ _ _ fun k hk => hrow k (pyIndex_ok_mem ks0 i k hk)
  · intro _ o ho hbad
    rw [kz_outs r0 rs' ks0 hk0] at ho
    obtain ⟨k, hk, rfl⟩ := List.mem_map.1 ho
    unfold kzRow at hbad
    cases hmm : (r0 :: rs').mapM (fun r => Ref.lookup r k) with
    | ok row => rw [hmm] at hbad; cases hbad
    | error e =>
      rw [hmm] at hbad; cases hbad
      obtain ⟨r, hrmem, hlook⟩ := List.mapM_error_mem hmm
      obtain ⟨d, _, hrel⟩ := h.of_mem_right hrmem
      obtain ⟨kl, hkl, hmem⟩ := hall k hk r hrmem
      exact kz_lookup_noIdxErr hrel (hi r hrmem) kl hkl k hmem hlook
  · intro _ ks hks j hj
    cases hk0.symm.trans hks
    rw [kz_outs r0 rs' ks0 hk0, outAt_lt _ j (by simpa using hj)]
    simp only [List.getElem_map]
    exact hrow _ (List.getElem_mem hj)

theorem rel_keyZip {ds : List DS} {rs : List RefDS} (h : Forall₂ Rel ds rs) (h2 : 2 ≤ ds.length)
    (hi : ∀ r ∈ rs, r.indexable = true)
    (hk : ∃ kss, rs.mapM (·.keys) = .ok kss ∧ sameKeySets kss = true) :
    Rel (keyZipDS ds) (Ref.keyZip rs) := by
  cases h with
  | nil => simp at h2
  | cons hr ht => exact rel_keyZip_cons hr ht hi hk

/-! ## well-formedness of the references (C02 / C03 on the eager data) -/

theorem isp_zeros_map {α β} (l : List α) (f : α → β) :
    (l.map f).map (fun _ => 0) = l.map (fun _ => 0) := by
  simp [Function.comp_def]

theorem nextAt_keyed {kl : List String} {k : Stream (String × Val)} {s : Stream Val}
    (h : KeyedOK kl k s) {j : Nat} {key : String} (hk : kl[j]? = some key) :
    nextAt k j = nextAt s j >>= fun v => .ok (key, v) := by
  obtain ⟨p1, p2, p3⟩ := h
  have h2 := congrArg (·[j]?) p2
  have h3 := congrArg (·[j]?) p3
  simp only [List.getElem?_map, List.getElem?_take] at h2 h3
  unfold nextAt
  rw [← h2, ← p1]
  cases hkv : k.vals[j]? with
  | none => rfl
  | some kv =>
    rw [hkv, if_pos (List.getElem?_eq_some_iff.1 hkv).1, hk] at h3
    cases h3; rfl

/-- Nothing is assumed about the parts beyond their own well-formedness: not that they are indexable,
    not that the table was built from their lengths (values past the end of a part simply end the
    iteration with an error). -/
theorem wf2_intersperse_of_ok {rs : List RefDS} {order : List OrdEntry}
    (hwf : ∀ r ∈ rs, RefWF2 r) (hok : OrderOK order) : RefWF2 (Ref.intersperse rs order) := by
  have hS : (Ref.intersperse rs order).stream = .ofOuts (order.map (fetch (rs.map (·.stream)))) := by
    rw [← intersperseRun_ok _ hok, isp_zeros_map]; rfl
  have hK : (Ref.intersperse rs order).kstream = .ofOuts (order.map (fetch (rs.map (·.kstream)))) := by
    rw [← intersperseRun_ok _ hok, isp_zeros_map]; rfl
  have hpart : ∀ {α} (f : RefDS → Stream α) (e : OrdEntry) (v : α), fetch (rs.map f) e = .ok v →
      ∃ r, rs[e.d]? = some r ∧ r ∈ rs ∧ (f r).vals[e.j]? = some v := by
    intro α f e v hv
    obtain ⟨s, hs, hv⟩ := fetch_eq_ok.1 hv
    rw [List.getElem?_map] at hs
    obtain ⟨r, hr, rfl⟩ := Option.map_eq_some_iff.1 hs
    exact ⟨r, hr, List.mem_of_getElem? hr, hv⟩
  refine .of (fun hix => ?_) (fun n hn herr => ?_) ?_ (fun ks hks hix => ?_) (sized_intersperse rs order)
  · have hi := all_indexable_mem hix
    rw [hS]
    refine posOK_ofOuts_map order _ _ fun e _ v hv => ?_
    obtain ⟨r, hr, hrm, hv⟩ := hpart _ e v hv
    simp only [hr]
    exact outAt_getElem? (((hwf r hrm).toRefWF.posOK (hi r hrm)).getElem? hv)
  · cases hn
    rw [hS] at herr ⊢
    rw [ofOuts_length_of_err_none herr, List.length_map]
  · rw [hS, hK]
    refine pairsOK_ofOuts_map order _ _ fun e _ kv hv => ?_
    obtain ⟨r, hr, hrm, hv⟩ := hpart _ e kv hv
    exact fetch_eq_ok.2 ⟨r.stream, by rw [List.getElem?_map, hr]; rfl,
      PairsOK.getElem? (hwf r hrm).pairs hv⟩
  · have hi := all_indexable_mem hix
    obtain ⟨kss, hm, ho, _⟩ := isp_keys_eq_ok.1 hks
    -- entry by entry, the keyed `next` is the plain one paired with the key the table lists for the entry
    have hfetch : order.map (fetch (rs.map (·.kstream))) = order.map fun e => (do
        let k ← (do let kl ← pyIndex kss (e.d : Int); pyIndex kl (e.j : Int))
        let v ← fetch (rs.map (·.stream)) e
        .ok (k, v) : Res (String × Val)) := by
      refine List.map_congr_left fun e he => ?_
      obtain ⟨k, _, hk⟩ := List.mapM_ok_of_mem ho he
      obtain ⟨kl, h1, h2⟩ := (isp_keyAt_ok_iff kss e k).1 hk
      rw [hk, ok_bind]
      unfold fetch
      rw [List.getElem?_map, List.getElem?_map]
      cases hr : rs[e.d]? with
      | none => rfl
      | some r =>
        obtain ⟨kl', h1', hrk⟩ := List.mapM_ok_of_getElem? hm hr
        rw [h1] at h1'; cases h1'
        have hrm := List.mem_of_getElem? hr
        exact nextAt_keyed ((hwf r hrm).keyed kl hrk (hi r hrm)) h2
    rw [hS, hK, hfetch, map_pair_eq_pairOuts _ ho]
    exact keyedOK_pairOuts ks _ (by rw [List.mapM_ok_length ho, List.length_map])

/-- the table built from ANY list of lengths is consistent, so only the parts' well-formedness is needed -/
theorem wf2_intersperse {rs : List RefDS} (hwf : ∀ r ∈ rs, RefWF2 r) (lens : List Nat) :
    RefWF2 (Ref.intersperse rs (intersperseOrder lens)) :=
  wf2_intersperse_of_ok hwf (order_ok lens)

theorem wf_intersperse {rs : List RefDS} (hwf : ∀ r ∈ rs, RefWF2 r) (lens : List Nat) :
    RefWF (Ref.intersperse rs (intersperseOrder lens)) :=
  (wf2_intersperse hwf lens).toRefWF

theorem wf2_keyZip_cons {r0 : RefDS} {rs' : List RefDS} (h0 : Sized r0) (hi0 : r0.indexable = true)
    (ks0 : List String) (hk0 : r0.keys = .ok ks0) : RefWF2 (Ref.keyZip (r0 :: rs')) := by
  have ho := kz_outs r0 rs' ks0 hk0
  have hs := kz_stream r0 rs' ks0 hk0
  have hk : (Ref.keyZip (r0 :: rs')).kstream = .ofOuts (pairOuts ks0 (ks0.map (kzRow (r0 :: rs')))) := by
    rw [kz_kstream r0 rs' ks0 hk0,
      ← map_pair_eq_pairOuts (sel := ks0) (f := Except.ok) _ (List.mapM_eq_ok_iff.2 rfl)]
    exact congrArg _ (List.map_congr_left fun k _ => kzRowK_eq _ k)
  have hkeyed : KeyedOK ks0 (Ref.keyZip (r0 :: rs')).kstream (Ref.keyZip (r0 :: rs')).stream := by
    rw [hs, hk]
    exact keyedOK_pairOuts ks0 _ (List.length_map _).symm
  refine RefWF2.of (fun _ => by rw [hs, ho]; exact posOK_ofOuts _) (fun n hn herr => ?_) hkeyed.pairs
    (fun ks hks _ => by cases hk0.symm.trans hks; exact hkeyed) (sized_keyZip_cons (rs' := rs') h0 hk0)
  rw [hs] at herr ⊢
  rw [ofOuts_length_of_err_none herr, List.length_map, h0.keysLen hi0 ks0 hk0]
  exact Except.ok.inj ((h0.lenOuts hi0).symm.trans hn)

/-- only what is assumed of the first part is used: the other parts enter through `Ref.lookup` alone -/
theorem wf2_keyZip {rs : List RefDS} (hwf : ∀ r ∈ rs, RefWF2 r) (hne : rs ≠ [])
    (hi : ∀ r ∈ rs, r.indexable = true) (hk : ∃ kss, rs.mapM (·.keys) = .ok kss) :
    RefWF2 (Ref.keyZip rs) := by
  cases rs with
  | nil => exact absurd rfl hne
  | cons r0 rs' =>
    obtain ⟨kss, hm⟩ := hk
    obtain ⟨ks0, _, hk0⟩ := List.mapM_ok_of_getElem? hm (t := 0) rfl
    exact wf2_keyZip_cons (hwf r0 (by simp)).sized (hi r0 (by simp)) ks0 hk0

theorem wf_keyZip {rs : List RefDS} (hwf : ∀ r ∈ rs, RefWF2 r) (hne : rs ≠ [])
    (hi : ∀ r ∈ rs, r.indexable = true) (hk : ∃ kss, rs.mapM (·.keys) = .ok kss) :
    RefWF (Ref.keyZip rs) :=
  (wf2_keyZip hwf hne hi hk).toRefWF

end LazyDs
