import LazyDs.Lemmas.Sound
import LazyDs.Lemmas.ShardSort
/-
  What the laws of C16 (`Props/C16.lean`) rest on: how the reference combinators `Ref.map`,
  `Ref.slice`, `Ref.concat`, `Ref.batch` and the build-time wrappers `Ref.mk*` act on outcomes, on
  selections in range and on batches, and the transfer of an equation between reference semantics
  to the model of the lazy code (through `build_ref`).
-/
namespace LazyDs
open LazyDs.Stream (mapM_nil mapM_fail mapM_cons consR_ok consR_error ofOuts_mapM)

/-- what `Ref.map f` does to a (key, example) pair -/
abbrev onSnd (f : Val → Res Val) (kv : String × Val) : Res (String × Val) := do
  let v ← f kv.2
  .ok (kv.1, v)

theorem onSnd_bind (f g : Val → Res Val) :
    (fun kv => onSnd f kv >>= onSnd g) = onSnd fun v => f v >>= g := by
  funext kv
  cases h : f kv.2 <;> simp only [onSnd, h, bind, Except.bind]

theorem rowK_map (f : Val → Res Val) (ks : List String) (outs : List (Res Val)) (j : Int) :
    (do let k ← pyIndex ks j; let v ← outAt (outs.map (· >>= f)) j; .ok (k, v) : Res (String × Val))
      = (do let k ← pyIndex ks j; let v ← outAt outs j; .ok (k, v) : Res (String × Val)) >>= onSnd f := by
  rw [outAt_map_bind]
  cases pyIndex ks j with
  | error e => rfl
  | ok k => cases outAt outs j <;> rfl

theorem selectK_map (f : Val → Res Val) (keys : Res (List String)) (outs : List (Res Val)) (sel : List Nat) :
    Ref.selectK keys (outs.map (· >>= f)) sel = (Ref.selectK keys outs sel).mapM (onSnd f) := by
  cases keys with
  | error e => rfl
  | ok ks => simp only [Ref.selectK, ofOuts_mapM, List.map_map, Function.comp_def, rowK_map]

theorem Ref.map_indexable (f : Val → Res Val) (r : RefDS) : (Ref.map f r).indexable = r.indexable := rfl
theorem Ref.map_len (f : Val → Res Val) (r : RefDS) : (Ref.map f r).len = r.len := rfl
theorem Ref.map_keys (f : Val → Res Val) (r : RefDS) : (Ref.map f r).keys = r.keys := rfl

/-- The value `f` returns, when it returns.  Where `f` succeeds it is `fun v => .ok (okVal f v)`, a
    total function under `.ok`: the form in which `Stream.mapM_total` and `List.mapM_ok_of_forall`
    take a loop body that does not raise (the default `.none` is never reached). -/
def okVal (f : Val → Res Val) (v : Val) : Val :=
  match f v with
  | .ok w => w
  | .error _ => .none

theorem okVal_eq {f : Val → Res Val} {v w : Val} (h : f v = .ok w) : f v = .ok (okVal f v) := by
  simp only [okVal, h]

theorem sumLens_map (f : Val → Res Val) (rs : List RefDS) :
    Ref.sumLens (rs.map (Ref.map f)) = Ref.sumLens rs := by
  induction rs with
  | nil => rfl
  | cons r rs ih => simp only [List.map_cons, Ref.sumLens, ih]; rfl

/-! ### `ds[spec]` -/

theorem mkSlice_ok_inv {spec : SliceSpec} {r r' : RefDS} (h : Ref.mkSlice spec r = .ok r') :
    r.indexable = true ∧ ∃ n sel, r.len = .ok n ∧ resolveSlice n r.keys spec = .ok sel ∧
      r' = Ref.slice sel r := by
  unfold Ref.mkSlice at h
  cases hi : r.indexable with
  | false => rw [hi] at h; cases h
  | true =>
    rw [hi] at h
    obtain ⟨n, hl, h⟩ := bind_eq_ok.mp h
    obtain ⟨sel, hs, h⟩ := bind_eq_ok.mp h
    cases h
    exact ⟨rfl, n, sel, hl, hs, rfl⟩

theorem mkSlice_ok_wf {spec : SliceSpec} {r r' : RefDS} (hw : Sized r) (h : Ref.mkSlice spec r = .ok r') :
    r.indexable = true ∧ ∃ sel, resolveSlice r.outs.length r.keys spec = .ok sel ∧
      (∀ j ∈ sel, j < r.outs.length) ∧ r' = Ref.slice sel r := by
  obtain ⟨hi, n, sel, hl, hs, rfl⟩ := mkSlice_ok_inv h
  cases (hw.lenOuts hi).symm.trans hl
  exact ⟨hi, sel, hs, resolveSlice_lt (hw.keysLen hi) hs, rfl⟩

/-! ### selections in range

  Where the positions are in range, `pyIndex ks j` is the total `ks[j]?.getD ""` (the default is never
  reached): the form in which a selected key table is written as a `map`. -/

theorem pyIndex_getD {ks : List String} {j : Nat} (h : j < ks.length) :
    pyIndex ks (j : Int) = .ok (ks[j]?.getD "") := by
  rw [pyIndex_lt ks j h, List.getElem?_eq_getElem h]; rfl

theorem range_map_getD (ks : List String) :
    (List.range ks.length).map (fun j => ks[j]?.getD "") = ks :=
  ((map_eq_range_map id _ ks fun j h => by rw [List.getElem?_eq_getElem h]; rfl).symm).trans (List.map_id ks)

theorem selectKeys_ok_eq (ks : List String) (sel : List Nat) (hsel : ∀ j ∈ sel, j < ks.length) :
    Ref.selectKeys (.ok ks) sel = .ok (sel.map (fun j => ks[j]?.getD "")) :=
  List.mapM_ok_of_forall fun j hj => pyIndex_getD (hsel j hj)

theorem pyIndex_map_lt {α β} [Inhabited α] (g : α → β) {l : List α} {j : Nat} (h : j < l.length) :
    pyIndex (l.map g) (j : Int) = .ok (g l[j]!) := by
  rw [pyIndex_lt _ j (by rwa [List.length_map]), List.getElem_map, getElem!_pos l j h]

theorem outAt_map_lt (F : Nat → Res Val) {l : List Nat} {j : Nat} (h : j < l.length) :
    outAt (l.map F) (j : Int) = F l[j]! := by
  rw [outAt, pyIndex_map_lt F h]

theorem map_outAt_sel (F : Nat → Res Val) {s₁ s₂ : List Nat} (h : ∀ j ∈ s₂, j < s₁.length) :
    s₂.map (fun (j : Nat) => outAt (s₁.map F) (j : Int)) = (s₂.map (s₁[·]!)).map F := by
  rw [List.map_map]
  exact List.map_congr_left fun j hj => outAt_map_lt F (h j hj)

theorem getElem!_mem_lt {s : List Nat} {n j : Nat} (hs : ∀ i ∈ s, i < n) (hj : j < s.length) : s[j]! < n := by
  rw [getElem!_pos s j hj]; exact hs _ (List.getElem_mem hj)

theorem slice_outs_ok {vs : List Val} {sel : List Nat} (hsel : ∀ j ∈ sel, j < vs.length) :
    sel.map (fun (j : Nat) => outAt (vs.map Except.ok) (j : Int)) = (sliceList vs sel).map .ok := by
  rw [sliceList_eq_map hsel, List.map_map]
  exact List.map_congr_left fun j hj => by
    rw [outAt, pyIndex_map_lt _ (hsel j hj)]; rfl

/-! ### the concatenation of slices of one dataset -/

theorem sumLens_slices (r : RefDS) (sels : List (List Nat)) :
    Ref.sumLens (sels.map (Ref.slice · r)) = .ok sels.flatten.length := by
  induction sels with
  | nil => rfl
  | cons s sels ih => simp only [List.map_cons, Ref.sumLens, ih, List.flatten_cons, List.length_append]; rfl

theorem concat_slices (r : RefDS) (sels : List (List Nat)) :
    (Ref.concat (sels.map (Ref.slice · r))).outs = (Ref.slice sels.flatten r).outs ∧
    (Ref.concat (sels.map (Ref.slice · r))).stream = (Ref.slice sels.flatten r).stream ∧
    (Ref.concat (sels.map (Ref.slice · r))).len = (Ref.slice sels.flatten r).len ∧
    (Ref.concat (sels.map (Ref.slice · r))).indexable = true := by
  have houts : ((sels.map (Ref.slice · r)).map (·.outs)).flatten
      = sels.flatten.map (fun (j : Nat) => outAt r.outs (j : Int)) := by
    rw [List.map_map, List.map_flatten]; rfl
  refine ⟨houts, ?_, sumLens_slices r sels, ?_⟩
  · show List.foldr _ _ _ = Stream.ofOuts _
    rw [← houts, ← ofOuts_flatten]; simp only [List.foldr_map]; rfl
  · simp only [Ref.concat, List.all_map, Function.comp_def, Ref.slice, List.all_eq_true, implies_true]

/-- `hne`: with no part at all the key table of `ds` is not consulted -/
theorem concat_slices_keys {r : RefDS} {sels : List (List Nat)} (hne : 0 < sels.length)
    (hin : ∀ ks, r.keys = .ok ks → ∀ j ∈ sels.flatten, j < ks.length) :
    (Ref.concat (sels.map (Ref.slice · r))).keys = r.keys >>= fun ks =>
      if hasDup (sels.flatten.map fun j => ks[j]?.getD "") then .error .assertionError
      else .ok (sels.flatten.map fun j => ks[j]?.getD "") := by
  cases hks : r.keys with
  | error e =>
    cases sels with
    | nil => cases hne
    | cons s sels => simp only [Ref.slice, hks]; rfl
  | ok ks =>
    simp only [Ref.concat, Ref.concatKeys, List.mapM_map, Function.comp_def, Ref.slice, hks]
    rw [List.mapM_ok_of_forall (l := sels) fun s hs => selectKeys_ok_eq ks s fun j hj =>
      hin ks hks j (List.mem_flatten.mpr ⟨s, hs, hj⟩), ok_bind, ← List.map_flatten]
    rfl

theorem mkSplit_parts {r : RefDS} {n : Nat} (hi : r.indexable = true) (hl : r.len = .ok n)
    {k : Int} {parts : List RefDS} (h : Ref.mkSplit k r = .ok parts) :
    1 ≤ k.toNat ∧ parts = ((List.range k.toNat).map (sectionIdx n k.toNat)).map (Ref.slice · r) := by
  unfold Ref.mkSplit at h
  by_cases h1 : k < 1
  · rw [if_pos h1] at h; cases h
  · rw [if_neg h1, hl] at h
    by_cases h2 : k > (n : Int)
    · simp only [ok_bind, if_pos h2] at h; cases h
    · have hk : 1 ≤ k.toNat := Int.lt_toNat.mpr (Int.not_lt.mp h1)
      simp only [ok_bind, if_neg h2] at h
      rw [List.mapM_ok_of_forall (g := fun i => Ref.slice (sectionIdx n k.toNat i) r) fun i hi' =>
        Ref.mkSlice_idx_ok hi hl (ShardSort.sectionIdx_lt hk (List.mem_range.mp hi'))] at h
      cases h
      exact ⟨hk, by rw [List.map_map]; rfl⟩

/-! ### index lists: filter and order-preserving selection -/

theorem sorted_eq_range_filter {sel : List Nat} {n : Nat} (hs : sel.Pairwise (· < ·))
    (hlt : ∀ j ∈ sel, j < n) : sel = (List.range n).filter (sel.contains ·) := by
  apply eq_of_sorted_of_mem_iff hs (List.Pairwise.filter _ List.pairwise_lt_range)
  intro x
  simp only [List.mem_filter, List.mem_range, List.contains_iff_mem]
  exact ⟨fun h => ⟨hlt x h, h⟩, fun h => h.2⟩

theorem filter_select_comm {α} [Inhabited α] (l : List α) (p : α → Bool) {sel : List Nat}
    (hs : sel.Pairwise (· < ·)) (hlt : ∀ j ∈ sel, j < l.length) :
    sel.filter (fun j => p l[j]!)
      = ((List.range l.length).filter (fun j => p l[j]!)).filter (sel.contains ·) := by
  conv => lhs; rw [sorted_eq_range_filter hs hlt]
  rw [List.filter_filter, List.filter_filter]
  exact List.filter_congr fun x _ => Bool.and_comm _ _

theorem chunks_take_flatten {α} {n : Nat} (hn : 1 ≤ n) (fuel : Nat) (l : List α) (k : Nat) (h : l.length < fuel) :
    ((Ref.chunks n l fuel).take k).flatten = l.take (k * n) := by
  induction k generalizing fuel l with
  | zero => rw [Nat.zero_mul]; rfl
  | succ k ih =>
    cases fuel with
    | zero => exact absurd h (Nat.not_lt_zero _)
    | succ fuel =>
      cases l with
      | nil => rw [List.take_nil]; rfl
      | cons a l =>
        rw [chunks_cons, List.take_succ_cons, List.flatten_cons, ih fuel _ (chunks_rest_lt hn h), Nat.succ_mul,
          Nat.add_comm (k * n) n, List.take_add]

theorem chunkAux_true_flatten {α} {n : Nat} (hn : 1 ≤ n) (l : List α) :
    (chunkAux n true l []).flatten = l.take (l.length / n * n) := by
  rw [chunkAux_dropLast hn, chunks_filter_full hn _ _ (Nat.lt_add_one _),
    chunks_take_flatten hn _ _ _ (Nat.lt_add_one _)]

theorem unbatchAux_lists (cs : List (List Val)) (e : Option Err) :
    unbatchAux (cs.map Val.list) e = ⟨cs.flatten, e⟩ := by
  induction cs with
  | nil => rfl
  | cons c cs ih => simp only [List.map_cons, unbatchAux, ih, List.flatten_cons]

/-! ### `map` and `batch` -/

/-- the function a `map` after `batch` has to apply to get the effect of `map f` before `batch`:
    apply `f` to every member of the batch, left to right -/
def batchMap (f : Val → Res Val) : Val → Res Val := fun v =>
  match v with
  | .list xs => (xs.mapM f).map .list
  | _ => .error .typeError

/-- the hypothesis of the positional law: if some example of `r` fails, `f` succeeds on the others -/
def MapBatchOk (f : Val → Res Val) (outs : List (Res Val)) : Prop :=
  ∀ v e, .ok v ∈ outs → .error e ∈ outs → ∃ w, f v = .ok w

/-- sequencing the outcomes of a batch and then applying `f` to each value, or applying `f` under each
    outcome first: the two orders can only differ when an outcome has failed and `f` fails too -/
theorem mapM_id_map_bind (f : Val → Res Val) (c : List (Res Val)) (h : MapBatchOk f c) :
    (c.map (· >>= f)).mapM id = (c.mapM id >>= fun vs => vs.mapM f) := by
  induction c with
  | nil => rfl
  | cons o c ih =>
    cases o with
    | error e => rfl
    | ok v =>
      rw [List.map_cons, List.mapM_cons, List.mapM_cons,
        ih fun v e hv he => h v e (List.mem_cons_of_mem _ hv) (List.mem_cons_of_mem _ he)]
      cases hc : c.mapM id with
      | error e =>
        obtain ⟨w, hw⟩ := h v e List.mem_cons_self (List.mem_cons_of_mem _ (mapM_id_error c e hc))
        show (f v >>= _) = _
        rw [hw]; rfl
      | ok vs => exact (List.mapM_cons (f := f) (a := v) (l := vs)).symm

theorem chunkOut_map_bind (f : Val → Res Val) (c : List (Res Val)) (h : MapBatchOk f c) :
    Ref.chunkOut (c.map (· >>= f)) = (Ref.chunkOut c >>= batchMap f) := by
  unfold Ref.chunkOut
  rw [mapM_id_map_bind f c h]
  cases c.mapM id <;> rfl

theorem map_batch_outs {f : Val → Res Val} {r : RefDS} (n : Nat) (dl : Bool)
    (h : ∀ c ∈ batches n dl r.outs, MapBatchOk f c) :
    (Ref.batch n dl (Ref.map f r)).outs = (Ref.map (batchMap f) (Ref.batch n dl r)).outs := by
  show (batches n dl (r.outs.map (· >>= f))).map Ref.chunkOut = ((batches n dl r.outs).map Ref.chunkOut).map _
  rw [batches_map, List.map_map, List.map_map]
  exact List.map_congr_left fun c hc => chunkOut_map_bind f c (h c hc)

theorem batchMap_list_ok {f : Val → Res Val} {g : Val → Val} {c : List Val} (h : ∀ v ∈ c, f v = .ok (g v)) :
    batchMap f (.list c) = .ok (.list (c.map g)) := by
  rw [batchMap, List.mapM_ok_of_forall (f := f) (g := g) (l := c) h]; rfl

/-- `batchStream n dl` with the batch collected so far as a parameter -/
def bsAux (n : Nat) (dl : Bool) (s : Stream Val) (cur : List Val) : Stream Val :=
  match s.err with
  | none => ⟨(chunkAux n dl s.vals cur).map Val.list, none⟩
  | some e => ⟨(chunkAux n true s.vals cur).map Val.list, some e⟩

theorem bsAux_nil (n : Nat) (dl : Bool) (cur : List Val) :
    bsAux n dl .nil cur = if cur = [] ∨ dl = true then .nil else .cons (.list cur.reverse) .nil := by
  cases cur <;> cases dl <;> rfl

theorem bsAux_fail (n : Nat) (dl : Bool) (e : Err) (cur : List Val) : bsAux n dl (.fail e) cur = .fail e := by
  cases cur <;> rfl

theorem bsAux_cons (n : Nat) (dl : Bool) (y : Val) (s : Stream Val) (cur : List Val) :
    bsAux n dl (.cons y s) cur =
      if cur.length + 1 ≥ n then .cons (.list (y :: cur).reverse) (bsAux n dl s []) else bsAux n dl s (y :: cur) := by
  obtain ⟨vals, err⟩ := s
  cases err <;> simp only [bsAux, Stream.cons, chunkAux, List.length_cons] <;> split <;> rfl

/-- once the batch under construction holds an example on which `f` fails, and the input ends normally
    so that this batch is yielded, the mapped batch fails -/
theorem mapM_bsAux_fail {n : Nat} (f : Val → Res Val) {e : Err} (s : Stream Val) :
    ∀ cur, s.err = none → cur.reverse.mapM f = .error e → (bsAux n false s cur).mapM (batchMap f) = .fail e := by
  induction s using Stream.ind with
  | nil =>
    intro cur _ h
    cases cur with
    | nil => cases h
    | cons c cs => rw [bsAux_nil, if_neg fun h => h.elim nofun nofun, mapM_cons, batchMap, h]; rfl
  | fail e' => intro _ h; cases h
  | cons y s ih =>
    intro cur hs h
    have h' : (y :: cur).reverse.mapM f = .error e := by
      rw [List.reverse_cons, List.mapM_append, h]; rfl
    rw [bsAux_cons]
    by_cases hfull : cur.length + 1 ≥ n
    · rw [if_pos hfull, mapM_cons, batchMap, h']; rfl
    · rw [if_neg hfull]; exact ih _ hs h'

/-- the first hypothesis: every batch under construction is yielded in the end (no `drop_last`, the input
    ends normally), or `f` does not fail on what is iterated -/
theorem bsAux_mapM {n : Nat} {dl : Bool} (f : Val → Res Val) (s : Stream Val) :
    ∀ cur, (dl = false ∧ s.err = none ∨ ∀ v ∈ s.vals, f v = .ok (okVal f v)) →
      (∀ v ∈ cur, f v = .ok (okVal f v)) → cur.length < n →
      bsAux n dl (s.mapM f) (cur.map (okVal f)) = (bsAux n dl s cur).mapM (batchMap f) := by
  induction s using Stream.ind with
  | nil =>
    intro cur _ hcur _
    rw [mapM_nil, bsAux_nil, bsAux_nil]
    by_cases hc : cur = [] ∨ dl = true
    · rw [if_pos hc, if_pos (hc.imp_left fun h => by rw [h]; rfl)]; rfl
    · rw [if_neg hc, if_neg fun h => hc (h.imp_left List.map_eq_nil_iff.mp), mapM_cons,
        batchMap_list_ok fun v hv => hcur v (List.mem_reverse.mp hv), List.map_reverse]
      rfl
  | fail e => intro cur _ _ _; rw [mapM_fail, bsAux_fail, bsAux_fail]; rfl
  | cons y s ih =>
    intro cur h hcur hlen
    have hs : dl = false ∧ s.err = none ∨ ∀ v ∈ s.vals, f v = .ok (okVal f v) :=
      h.imp_right fun h v hv => h v (List.mem_cons_of_mem _ hv)
    rw [mapM_cons, bsAux_cons]
    cases hfy : f y with
    | error e =>
      rcases h with ⟨rfl, he⟩ | h
      · have h' : (y :: cur).reverse.mapM f = .error e := by
          rw [List.reverse_cons, List.mapM_append,
            List.mapM_ok_of_forall (f := f) fun v hv => hcur v (List.mem_reverse.mp hv), List.mapM_cons, hfy]
          rfl
        rw [consR_error, bsAux_fail]
        by_cases hfull : cur.length + 1 ≥ n
        · rw [if_pos hfull, mapM_cons, batchMap, h']; rfl
        · rw [if_neg hfull]; exact (mapM_bsAux_fail f s _ he h').symm
      · rw [h y List.mem_cons_self] at hfy; cases hfy
    | ok z =>
      have hz : okVal f y = z := by rw [okVal, hfy]
      have hcur' : ∀ v ∈ y :: cur, f v = .ok (okVal f v) := by
        intro v hv
        rcases List.mem_cons.mp hv with rfl | hv
        · rw [hfy, hz]
        · exact hcur v hv
      rw [consR_ok, bsAux_cons, List.length_map, ← hz]
      by_cases hfull : cur.length + 1 ≥ n
      · rw [if_pos hfull, if_pos hfull, mapM_cons, batchMap_list_ok fun v hv => hcur' v (List.mem_reverse.mp hv),
          consR_ok, ← ih [] hs (fun _ h => nomatch h) (Nat.lt_of_le_of_lt (Nat.zero_le _) hlen), List.map_reverse]
        rfl
      · rw [if_neg hfull, if_neg hfull]
        exact ih (y :: cur) hs hcur' (Nat.lt_of_not_le hfull)

/-! ### transfer to the model of the lazy code

  `ObsEq` has no clause for `ds[key]`: `Rel.getKey` speaks of the listed keys only, so two datasets that
  refine the same reference need not agree on an unlisted key (`SliceDataset` answers for keys outside
  its selection: known defect F15, `Lemmas/AbsentKey.lean`). -/

/-- what a user can observe of a (model) dataset -/
structure ObsEq (d₁ d₂ : DS) : Prop where
  indexable : d₁.indexable = d₂.indexable
  iter : d₁.iter = d₂.iter
  iterK : d₁.iterK = d₂.iterK
  len : d₁.len = d₂.len
  keys : d₁.keys = d₂.keys
  getInt : d₁.indexable = true → ∀ i, d₁.getInt i = d₂.getInt i

theorem obsEq_of_rel {d₁ d₂ : DS} {r : RefDS} (h₁ : Rel d₁ r) (h₂ : Rel d₂ r) : ObsEq d₁ d₂ where
  indexable := h₁.indexable.trans h₂.indexable.symm
  iter := h₁.iter.trans h₂.iter.symm
  iterK := h₁.iterK.trans h₂.iterK.symm
  len := h₁.len.trans h₂.len.symm
  keys := h₁.keys.trans h₂.keys.symm
  getInt hi i := by
    have hri := h₁.indexable.symm.trans hi
    rw [(h₁.idx hri).2 i, (h₂.idx hri).2 i]

theorem build_rel {ρ : Env} (hρ : EnvOK ρ) {p : Pipeline} (ha : Adm ρ p) {d : DS} (hd : build ρ p = .ok d)
    {r : RefDS} (hr : ref ρ p = .ok r) : Rel d r := by
  obtain ⟨r', hr', h⟩ := build_ref ρ hρ p ha d hd
  cases hr.symm.trans hr'
  exact h

theorem build_of_ref {ρ : Env} (hρ : EnvOK ρ) {p : Pipeline} (ha : Adm ρ p) {r : RefDS} (hr : ref ρ p = .ok r) :
    ∃ d, build ρ p = .ok d ∧ Rel d r := by
  obtain ⟨d, hd⟩ := (build_sim ρ hρ p ha).isOk_iff.mpr ⟨r, hr⟩
  exact ⟨d, hd, build_rel hρ ha hd hr⟩

theorem obsEq_of_ref_eq {ρ : Env} (hρ : EnvOK ρ) {p₁ p₂ : Pipeline} {d₁ d₂ : DS} (h₁ : build ρ p₁ = .ok d₁)
    (h₂ : build ρ p₂ = .ok d₂) (ha₁ : Adm ρ p₁) (ha₂ : Adm ρ p₂) (h : ref ρ p₁ = ref ρ p₂) :
    d₁.iter = d₂.iter ∧ ObsEq d₁ d₂ := by
  obtain ⟨r, hr, hrel⟩ := build_ref ρ hρ p₁ ha₁ d₁ h₁
  have := obsEq_of_rel hrel (build_rel hρ ha₂ h₂ (h ▸ hr))
  exact ⟨this.iter, this⟩

/-- `m` is a stage, `G` a build-time wrapper `Ref.mk*`; the two sides are `ref` of the two pipelines -/
theorem ref_comm {x : Res RefDS} {m : RefDS → RefDS} {G : RefDS → Res RefDS}
    (h : ∀ r, G (m r) = (G r).map m) :
    ((x >>= fun r => .ok (m r)) >>= G) = ((x >>= G) >>= fun r => .ok (m r)) := by
  cases x with
  | error e => rfl
  | ok r => rw [ok_bind, ok_bind, ok_bind, h]; cases G r <;> rfl

theorem ref_fuse {x : Res RefDS} {m₁ m₂ m : RefDS → RefDS} (h : ∀ r, m₂ (m₁ r) = m r) :
    ((x >>= fun r => .ok (m₁ r)) >>= fun r => .ok (m₂ r)) = (x >>= fun r => (.ok (m r) : Res RefDS)) := by
  cases x with
  | error e => rfl
  | ok r => rw [ok_bind, ok_bind, ok_bind, h]

/-- `tile(n)` is literally built as the `n`-fold concatenation -/
theorem buildAll_replicate (ρ : Env) (p : Pipeline) (n : Nat) :
    buildAll ρ (Pipelines.ofList (List.replicate (n + 1) p)) = (build ρ p).map (List.replicate (n + 1)) := by
  induction n with
  | zero => simp only [List.replicate, Pipelines.ofList, buildAll]; cases build ρ p <;> rfl
  | succ n ih => rw [List.replicate_succ, Pipelines.ofList, buildAll, ih]; cases build ρ p <;> rfl

/-- `lambda kv: kv[1]` on the pairs `items()` yields -/
def sndOfPair : Val → Res Val
  | .tup [_, v] => .ok v
  | _ => .error .typeError

end LazyDs
