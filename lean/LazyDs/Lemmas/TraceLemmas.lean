import LazyDs.Model.Trace
import LazyDs.Lemmas.IspOrder
/-
  What C08 (demand-driven evaluation) rests on: the definitions that its statements use beside the model (first
  section), and lemmas about the chunked-trace semantics of `LazyDs/Model/Trace.lean`.  Where a statement follows
  the recursion of a combinator (`mapT`, `filterT`, `batchT`, …) on its input, the proof starts from the induction
  principle Lean derives from that recursion (`fun_induction`), so the case analysis of the model is written down
  once, in the model.  `batch_logAfter`, `local_logAfter` and `interT_run` count inputs with numbers that are no
  arguments of the model function; they go by induction on the input and unfold one step of the combinator.  The
  facts about the order table of `intersperse` and about Layer A's interleaver `intersperseRun` come from
  `LazyDs/Lemmas/IspOrder.lean`.  This file is not linked into the driver.
-/
namespace LazyDs.Trace

/-! ### definitions that the statements of C08 use

`sidArgs sid log` is what the statements write out as `(log.filter (·.stage == sid)).map (·.arg)`. -/

/-- the arguments a stage `sid` was applied to, in order, according to a log -/
def sidArgs (sid : Nat) (l : Log) : List Val := (l.filter (·.stage == sid)).map (·.arg)

/-- the predicate accepted `v` (returned `True`) -/
def accepted (ρ : Env) (f : PredSym) (v : Val) : Bool :=
  match ρ.pred f v with
  | .ok true => true
  | _ => false

/-- the stage identifiers that own a user function in a pipeline -/
def stages : TPipe → List Nat
  | .src _ => []
  | .map sid _ p => sid :: stages p
  | .filter sid _ p => sid :: stages p
  | .batch _ _ p => stages p
  | .unbatch p => stages p
  | .concat p q => stages p ++ stages q
  | .slice _ p => stages p
  | .zip p q => stages p ++ stages q
  | .localShuffle _ _ _ p => stages p
  | .catch _ p => stages p
  | .reshuffle _ p => stages p
  | .cache p => stages p
  | .tile _ p => stages p
  | .intersperse p q => stages p ++ stages q

/-- `ds[j]` fails with an exception that `except E` does not catch -/
def uncaught (ρ : Env) (E : List Err) (p : TPipe) (j : Nat) : Bool :=
  match (getT ρ p j).2 with
  | .error e => !e.isAny E
  | .ok _ => false

/-- the value of `ds[j]` if it succeeds -/
def okVal (ρ : Env) (p : TPipe) (j : Nat) : Option Val :=
  match (getT ρ p j).2 with
  | .ok v => some v
  | .error _ => none

/-- the exception of `ds[j]` if it fails -/
def errOf (ρ : Env) (p : TPipe) (j : Nat) : Option Err :=
  match (getT ρ p j).2 with
  | .ok _ => none
  | .error e => some e

/-- the number of positions of `sel` before the first uncaught failure -/
def catchStop (ρ : Env) (E : List Err) (p : TPipe) (sel : List Nat) : Nat :=
  (sel.takeWhile (fun j => !uncaught ρ E p j)).length

/-! ### `logAfter` / `fullLog` of a stream given by its parts -/

@[simp] theorem logAfter_zero (t : TStream) : t.logAfter 0 = [] := rfl

@[simp] theorem logAfter_nil (tl : Log) (e : Option Err) (k : Nat) : (TStream.mk [] tl e).logAfter k = [] := by
  simp [TStream.logAfter]

@[simp] theorem logAfter_cons_succ (c : Log × Val) (cs : List (Log × Val)) (tl : Log) (e : Option Err) (k : Nat) :
    (TStream.mk (c :: cs) tl e).logAfter (k + 1) = c.1 ++ (TStream.mk cs tl e).logAfter k := rfl

theorem logAfter_congr (t : TStream) (tl : Log) (e : Option Err) (k : Nat) :
    (TStream.mk t.chunks tl e).logAfter k = t.logAfter k := rfl

@[simp] theorem fullLog_nil (tl : Log) (e : Option Err) : (TStream.mk [] tl e).fullLog = tl := rfl

@[simp] theorem fullLog_cons (c : Log × Val) (cs : List (Log × Val)) (tl : Log) (e : Option Err) :
    (TStream.mk (c :: cs) tl e).fullLog = c.1 ++ (TStream.mk cs tl e).fullLog :=
  List.append_assoc ..

theorem fullLog_congr (t : TStream) (e : Option Err) :
    (TStream.mk t.chunks t.tail e).fullLog = t.fullLog := rfl

@[simp] theorem flatten_map_fst_nil (xs : List Val) :
    ((xs.map (fun y => (([] : Log), y))).map (·.1)).flatten = [] := by
  induction xs with
  | nil => rfl
  | cons x xs ih => exact ih

/-! ### `sidArgs`: the arguments of the calls of one stage -/

@[simp] theorem sidArgs_nil (sid : Nat) : sidArgs sid [] = [] := rfl

@[simp] theorem sidArgs_append (sid : Nat) (a b : Log) :
    sidArgs sid (a ++ b) = sidArgs sid a ++ sidArgs sid b := by
  simp [sidArgs]

@[simp] theorem sidArgs_self (sid : Nat) (v : Val) : sidArgs sid [⟨sid, v⟩] = [v] := by
  simp [sidArgs]

@[simp] theorem sidArgs_cons_self (sid : Nat) (v : Val) (l : Log) :
    sidArgs sid (⟨sid, v⟩ :: l) = v :: sidArgs sid l := by
  simp [sidArgs]

theorem sidArgs_fresh (sid : Nat) (l : Log) (h : ∀ c ∈ l, c.stage ≠ sid) : sidArgs sid l = [] := by
  simp only [sidArgs, List.map_eq_nil_iff, List.filter_eq_nil_iff]
  intro c hc
  simpa using h c hc

theorem sidArgs_prefix (sid : Nat) {a b : Log} (h : a <+: b) : sidArgs sid a <+: sidArgs sid b :=
  (h.filter _).map _

/-! ### a property of all calls of a stream, along its first chunk -/

section
variable {P : Call → Prop}

theorem all_cons_split {lg : Log} {v : Val} {rest : List (Log × Val)} {tl : Log}
    (h : ∀ c ∈ ((((lg, v) :: rest).map (·.1)).flatten ++ tl), P c) :
    (∀ c ∈ lg, P c) ∧ (∀ c ∈ ((rest.map (·.1)).flatten ++ tl), P c) := by
  simp only [List.map_cons, List.flatten_cons, List.append_assoc, List.forall_mem_append] at h
  exact ⟨h.1, List.forall_mem_append.2 h.2⟩

theorem all_tail {cs : List (Log × Val)} {tl : Log}
    (h : ∀ c ∈ ((cs.map (·.1)).flatten ++ tl), P c) : ∀ c ∈ tl, P c :=
  (List.forall_mem_append.1 h).2

theorem all_cons {lg : Log} {v : Val} {t : TStream} (h1 : ∀ c ∈ lg, P c) (h2 : ∀ c ∈ t.fullLog, P c) :
    ∀ c ∈ (TStream.mk ((lg, v) :: t.chunks) t.tail t.err).fullLog, P c := by
  rw [fullLog_cons]
  exact List.forall_mem_append.2 ⟨h1, h2⟩

theorem all_stop {tl : Log} {e : Option Err} (h : ∀ c ∈ tl, P c) : ∀ c ∈ (TStream.mk [] tl e).fullLog, P c :=
  h

end

/-! ### `map` -/

theorem map_chunks_length_le (ρ : Env) (sid : Nat) (f : FnSym) (cs : List (Log × Val)) (tl : Log) (e : Option Err) :
    (mapT ρ sid f cs tl e).chunks.length ≤ cs.length := by
  -- `caseN` is the N-th arm of the `match` in the model function, in source order (nested matches flattened)
  fun_induction mapT ρ sid f cs tl e with
  | case1 => exact Nat.le_refl _
  | case2 lg v rest tl e w h t ih => exact Nat.succ_le_succ ih
  | case3 => exact Nat.zero_le _

theorem map_err_none (ρ : Env) (sid : Nat) (f : FnSym) (cs : List (Log × Val)) (tl : Log) (e : Option Err)
    (h : (mapT ρ sid f cs tl e).err = none) : (mapT ρ sid f cs tl e).chunks.length = cs.length := by
  fun_induction mapT ρ sid f cs tl e with
  | case1 => rfl
  | case2 lg v rest tl e w hw t ih => exact congrArg (· + 1) (ih h)
  | case3 => cases h

/-! ### `filter` -/

theorem log_filter (ρ : Env) (sid : Nat) (f : PredSym) (cs : List (Log × Val)) (pending tl : Log)
    (e : Option Err) (hf : ∀ c ∈ ((cs.map (·.1)).flatten ++ tl), c.stage ≠ sid) :
    sidArgs sid (filterT ρ sid f cs pending tl e).fullLog <+: sidArgs sid pending ++ cs.map (·.2) ∧
    ((filterT ρ sid f cs pending tl e).err = none →
      sidArgs sid (filterT ρ sid f cs pending tl e).fullLog = sidArgs sid pending ++ cs.map (·.2)) := by
  fun_induction filterT ρ sid f cs pending tl e with
  | case1 pending tl => simp [sidArgs_fresh sid tl (all_tail hf)]
  | case2 lg v rest pending tl e h t ih =>
    obtain ⟨h1, h2⟩ := all_cons_split hf
    simpa [sidArgs_fresh sid lg h1] using ih h2
  | case3 lg v rest pending tl e h ih =>
    obtain ⟨h1, h2⟩ := all_cons_split hf
    simpa [sidArgs_fresh sid lg h1] using ih h2
  | case4 lg => simp [sidArgs_fresh sid lg (all_cons_split hf).1]

theorem filter_no_lookahead (ρ : Env) (sid : Nat) (f : PredSym) (cs : List (Log × Val)) (pending tl : Log)
    (e : Option Err) (hf : ∀ c ∈ ((cs.map (·.1)).flatten ++ tl), c.stage ≠ sid)
    (hp : ∀ v ∈ sidArgs sid pending, accepted ρ f v = false) (k : Nat) :
    (sidArgs sid ((filterT ρ sid f cs pending tl e).logAfter k)).filter (accepted ρ f) =
      ((filterT ρ sid f cs pending tl e).chunks.take k).map (·.2) ∧
    ∀ j, k = j + 1 → j < (filterT ρ sid f cs pending tl e).chunks.length →
      (sidArgs sid ((filterT ρ sid f cs pending tl e).logAfter k)).getLast? =
        ((filterT ρ sid f cs pending tl e).chunks[j]?).map (·.2) := by
  fun_induction filterT ρ sid f cs pending tl e generalizing k with
  | case1 => exact ⟨by simp, fun j _ hj => nomatch hj⟩
  | case2 lg v rest pending tl e h t ih =>
    obtain ⟨h1, h2⟩ := all_cons_split hf
    cases k with
    | zero => exact ⟨rfl, fun j hj => nomatch hj⟩
    | succ k =>
      -- the arguments of stage `sid` in the first chunk: those in `pending`, all rejected; none in `lg`, which is
      -- fresh; then `v`, accepted.  So `v` is the only accepted one, and the last
      have hc : sidArgs sid (pending ++ lg ++ [⟨sid, v⟩]) = sidArgs sid pending ++ [v] := by
        simp [sidArgs_fresh sid lg h1]
      have hv : accepted ρ f v = true := by simp [accepted, h]
      have h0 : (sidArgs sid pending).filter (accepted ρ f) = [] :=
        List.filter_eq_nil_iff.2 fun a ha => by simp [hp a ha]
      obtain ⟨ih1, ih2⟩ := ih h2 (fun _ h => nomatch h) k
      rw [logAfter_cons_succ, sidArgs_append, hc]
      refine ⟨by simp [t, h0, hv, ih1], ?_⟩
      intro j hk hj
      obtain rfl := Nat.succ.inj hk
      cases k with
      | zero => simp
      | succ j =>
        have hj' : j < (filterT ρ sid f rest [] tl e).chunks.length := Nat.lt_of_succ_lt_succ hj
        have := ih2 j rfl hj'
        simp [t, List.getLast?_cons, this, List.getElem?_eq_getElem hj']
  | case3 lg v rest pending tl e h ih =>
    obtain ⟨h1, h2⟩ := all_cons_split hf
    refine ih h2 (fun a ha => ?_) k
    simp only [sidArgs_append, sidArgs_fresh sid lg h1, sidArgs_self, List.append_nil, List.mem_append,
      List.mem_singleton] at ha
    rcases ha with ha | rfl
    · exact hp a ha
    · simp [accepted, h]
  | case4 => exact ⟨by simp, fun j _ hj => nomatch hj⟩

/-! ### `unbatch` -/

/-- Layer A's `unbatchAux` reads a batch the way `unbatchT` does: through its elements, if it has any.  `o` is the
    outcome of `unbatchT`'s own `match`, so that the lemma rewrites along the cases of `unbatchT`. -/
theorem unbatchAux_cons {v : Val} {o : Option (List Val)}
    (ho : (match v with | .list xs => some xs | .tup xs => some xs | _ => none) = o) (rest : List Val)
    (e : Option Err) :
    unbatchAux (v :: rest) e =
      match o with
      | none => ⟨[], some .assertionError⟩
      | some xs => ⟨xs ++ (unbatchAux rest e).vals, (unbatchAux rest e).err⟩ := by
  subst ho
  cases v <;> rfl

/-! ### `concatenate` and `tile` -/

theorem erase_append (a b : TStream) : (appendT a b).erase = a.erase.append b.erase := by
  unfold appendT Stream.append TStream.erase
  cases ha : a.err with
  | some e => simp [ha]
  | none =>
    cases b.chunks with
    | nil => simp
    | cons c rest => simp

theorem fullLog_append (a b : TStream) :
    (appendT a b).fullLog = a.fullLog ++ (match a.err with | none => b.fullLog | some _ => []) := by
  unfold appendT
  cases a.err with
  | some e => exact (List.append_nil _).symm
  | none =>
    cases hb : b.chunks with
    | nil => simp [TStream.fullLog, hb]
    | cons c rest => simp [TStream.fullLog, hb]

theorem tileT_one (t : TStream) : tileT t 1 = t := by
  obtain ⟨cs, tl, e⟩ := t
  cases e <;> simp [tileT, appendT]

theorem tileT_err (t : TStream) (e : Err) (h : t.err = some e) (r : Nat) : tileT t (r + 1) = t := by
  rw [tileT, appendT, h]

theorem erase_tile (t : TStream) (r : Nat) :
    (tileT t r).erase = (List.replicate r t.erase).foldr Stream.append Stream.nil := by
  induction r with
  | zero => rfl
  | succ r ih => rw [tileT, erase_append, ih, List.replicate_succ, List.foldr_cons]

theorem fullLog_tile (t : TStream) (h : t.err = none) (r : Nat) :
    (tileT t r).fullLog = (List.replicate r t.fullLog).flatten := by
  induction r with
  | zero => rfl
  | succ r ih => rw [tileT, fullLog_append, h, ih, List.replicate_succ, List.flatten_cons]

/-! ### the index-driven walks over any footprint function -/

/-- `catchT` with `g` in place of `getT ρ p`.  The walk itself is plain structural recursion over the positions, so
    on concrete positions it evaluates as soon as `g` does (`getT` does not: it is defined by well-founded
    recursion); `sliceT` is the walk that catches nothing. -/
def walkT (g : Nat → Log × Res Val) (E : List Err) : List Nat → Log → TStream
  | [], pending => ⟨[], pending, none⟩
  | j :: rest, pending =>
    match g j with
    | (lg, .ok v) => let t := walkT g E rest []; ⟨(pending ++ lg, v) :: t.chunks, t.tail, t.err⟩
    | (lg, .error e) => if e.isAny E then walkT g E rest (pending ++ lg) else ⟨[], pending ++ lg, some e⟩

theorem catchT_eq_walkT (ρ : Env) (E : List Err) (p : TPipe) (sel : List Nat) (pending : Log) :
    catchT ρ E p sel pending = walkT (getT ρ p) E sel pending := by
  fun_induction catchT ρ E p sel pending with
  | case1 => rfl
  | case2 j rest pending lg v h t ih => rw [walkT, h, ← ih]
  | case3 j rest pending lg e h hc ih => rw [walkT, h, ih]; exact (if_pos hc).symm
  | case4 j rest pending lg e h hc => rw [walkT, h]; exact (if_neg hc).symm

theorem sliceT_eq_walkT (ρ : Env) (p : TPipe) (sel : List Nat) : sliceT ρ p sel = walkT (getT ρ p) [] sel [] := by
  fun_induction sliceT ρ p sel with
  | case1 => rfl
  | case2 j rest lg v h t ih => rw [walkT, h, ← ih]; rfl
  | case3 j rest lg e h => rw [walkT, h]; rfl

theorem getT_map_src (ρ : Env) (sid : Nat) (f : FnSym) (xs : List Val) (i : Nat) :
    getT ρ (.map sid f (.src xs)) i =
      match xs[i]? with
      | some v => ([⟨sid, v⟩], ρ.fn f v)
      | none => ([], .error .indexError) := by
  unfold getT getT
  cases xs[i]? <;> rfl

/-! ### provenance: calls only ever arise in `map` / `filter` stages

`all_log_X`: what holds of every call of the inputs of the combinator `X` (and of the calls of its own stage, if it
has one) holds of every call of its output. -/

section
variable {P : Call → Prop}

theorem all_log_map {ρ : Env} {sid : Nat} {f : FnSym} {cs : List (Log × Val)} {tl : Log} {e : Option Err}
    (hin : ∀ c ∈ ((cs.map (·.1)).flatten ++ tl), P c) (hs : ∀ v, P ⟨sid, v⟩) :
    ∀ c ∈ (mapT ρ sid f cs tl e).fullLog, P c := by
  fun_induction mapT ρ sid f cs tl e with
  | case1 => exact all_tail hin
  | case2 lg v rest tl e w h t ih =>
    obtain ⟨h1, h2⟩ := all_cons_split hin
    exact all_cons (List.forall_mem_append.2 ⟨h1, List.forall_mem_singleton.2 (hs v)⟩) (ih h2)
  | case3 lg v =>
    exact all_stop (List.forall_mem_append.2 ⟨(all_cons_split hin).1, List.forall_mem_singleton.2 (hs v)⟩)

theorem all_log_filter {ρ : Env} {sid : Nat} {f : PredSym} {cs : List (Log × Val)} {pending tl : Log}
    {e : Option Err} (hin : ∀ c ∈ ((cs.map (·.1)).flatten ++ tl), P c) (hp : ∀ c ∈ pending, P c)
    (hs : ∀ v, P ⟨sid, v⟩) :
    ∀ c ∈ (filterT ρ sid f cs pending tl e).fullLog, P c := by
  fun_induction filterT ρ sid f cs pending tl e with
  | case1 => exact all_stop (List.forall_mem_append.2 ⟨hp, all_tail hin⟩)
  | case2 lg v rest pending tl e h t ih =>
    obtain ⟨h1, h2⟩ := all_cons_split hin
    exact all_cons
      (List.forall_mem_append.2 ⟨List.forall_mem_append.2 ⟨hp, h1⟩, List.forall_mem_singleton.2 (hs v)⟩)
      (ih h2 (List.forall_mem_nil _))
  | case3 lg v rest pending tl e h ih =>
    obtain ⟨h1, h2⟩ := all_cons_split hin
    exact ih h2
      (List.forall_mem_append.2 ⟨List.forall_mem_append.2 ⟨hp, h1⟩, List.forall_mem_singleton.2 (hs v)⟩)
  | case4 lg v =>
    exact all_stop (List.forall_mem_append.2
      ⟨List.forall_mem_append.2 ⟨hp, (all_cons_split hin).1⟩, List.forall_mem_singleton.2 (hs v)⟩)

theorem fullLog_batch (n : Nat) (dl : Bool) (cs : List (Log × Val)) (cur : List Val) (lg tl : Log) (e : Option Err) :
    (batchT n dl cs cur lg tl e).fullLog = lg ++ ((cs.map (·.1)).flatten ++ tl) := by
  fun_induction batchT n dl cs cur lg tl e with
  | case1 | case3 => rfl
  | case2 => simp
  | case4 l v rest cur lg tl e _ _ t ih => simp [t, ih]
  | case5 l v rest cur lg tl e _ _ ih => simp [ih]

theorem all_log_unbatch {cs : List (Log × Val)} {pending tl : Log} {e : Option Err}
    (hin : ∀ c ∈ ((cs.map (·.1)).flatten ++ tl), P c) (hp : ∀ c ∈ pending, P c) :
    ∀ c ∈ (unbatchT cs pending tl e).fullLog, P c := by
  fun_induction unbatchT cs pending tl e with
  | case1 => exact all_stop (List.forall_mem_append.2 ⟨hp, all_tail hin⟩)
  | case2 => exact all_stop (List.forall_mem_append.2 ⟨hp, (all_cons_split hin).1⟩)
  | case3 lg v rest pending tl e _ _ ih =>
    obtain ⟨h1, h2⟩ := all_cons_split hin
    exact ih h2 (List.forall_mem_append.2 ⟨hp, h1⟩)
  | case4 lg v rest pending tl e _ x xs _ t ih =>
    obtain ⟨h1, h2⟩ := all_cons_split hin
    have h0 := ih h2 (List.forall_mem_nil _)
    -- the further elements of the batch come with empty chunks
    simp only [TStream.fullLog, List.cons_append, List.map_cons, List.map_append, List.flatten_cons,
      List.flatten_append, flatten_map_fst_nil, List.nil_append, List.append_assoc, List.forall_mem_append] at h0 ⊢
    exact ⟨hp, h1, h0⟩

theorem all_log_append {a b : TStream} (ha : ∀ c ∈ a.fullLog, P c) (hb : ∀ c ∈ b.fullLog, P c) :
    ∀ c ∈ (appendT a b).fullLog, P c := by
  rw [fullLog_append]
  refine List.forall_mem_append.2 ⟨ha, ?_⟩
  cases a.err with
  | none => exact hb
  | some e => exact List.forall_mem_nil _

theorem all_log_zip {ca : List (Log × Val)} {tla : Log} {ea : Option Err} {cb : List (Log × Val)} {tlb : Log}
    {eb : Option Err} (ha : ∀ c ∈ ((ca.map (·.1)).flatten ++ tla), P c)
    (hb : ∀ c ∈ ((cb.map (·.1)).flatten ++ tlb), P c) :
    ∀ c ∈ (zipT ca tla ea cb tlb eb).fullLog, P c := by
  fun_induction zipT ca tla ea cb tlb eb with
  | case1 => exact all_tail ha
  | case2 => exact all_stop (List.forall_mem_append.2 ⟨(all_cons_split ha).1, all_tail hb⟩)
  | case3 la a ra tla ea lb b rb tlb eb t ih =>
    obtain ⟨h1, h2⟩ := all_cons_split ha
    obtain ⟨h3, h4⟩ := all_cons_split hb
    exact all_cons (List.forall_mem_append.2 ⟨h1, h3⟩) (ih h2 h4)

theorem all_log_local {bs : Nat} {cs : List (Log × Val)} {buf : List Val} {lg : Log} {choices final : List Nat}
    {tl : Log} {e : Option Err} (hin : ∀ c ∈ ((cs.map (·.1)).flatten ++ tl), P c) (hl : ∀ c ∈ lg, P c) :
    ∀ c ∈ (localT bs cs buf lg choices final tl e).fullLog, P c := by
  fun_induction localT bs cs buf lg choices final tl e with
  | case1 | case2 =>
    exact all_stop (List.forall_mem_append.2 ⟨hl, all_tail hin⟩)
  | case3 =>
    -- the flush: its first chunk carries all remaining calls, the others are empty
    rw [fullLog_cons, TStream.fullLog, flatten_map_fst_nil]
    exact List.forall_mem_append.2 ⟨List.forall_mem_append.2 ⟨hl, all_tail hin⟩, List.forall_mem_nil _⟩
  | case4 l v rest buf lg final tl e _ _ c cs y _ t ih =>
    obtain ⟨h1, h2⟩ := all_cons_split hin
    exact all_cons (List.forall_mem_append.2 ⟨hl, h1⟩) (ih h2 (List.forall_mem_nil _))
  | case5 | case6 =>
    exact all_stop (List.forall_mem_append.2 ⟨hl, (all_cons_split hin).1⟩)
  | case7 l v rest buf lg choices final tl e _ _ ih =>
    obtain ⟨h1, h2⟩ := all_cons_split hin
    exact ih h2 (List.forall_mem_append.2 ⟨hl, h1⟩)

theorem all_log_tile {t : TStream} (h : ∀ c ∈ t.fullLog, P c) (r : Nat) : ∀ c ∈ (tileT t r).fullLog, P c := by
  induction r with
  | zero => exact List.forall_mem_nil _
  | succ r ih => exact all_log_append h ih

theorem all_log_inter {order : List OrdEntry} {ca : List (Log × Val)} {tla : Log} {ea : Option Err}
    {cb : List (Log × Val)} {tlb : Log} {eb : Option Err}
    (ha : ∀ c ∈ ((ca.map (·.1)).flatten ++ tla), P c) (hb : ∀ c ∈ ((cb.map (·.1)).flatten ++ tlb), P c) :
    ∀ c ∈ (interT order ca tla ea cb tlb eb).fullLog, P c := by
  fun_induction interT order ca tla ea cb tlb eb with
  | case1 => exact List.forall_mem_nil _
  | case2 o rest tla ea cb tlb eb _ lg v ca' t ih =>
    obtain ⟨h1, h2⟩ := all_cons_split ha
    exact all_cons h1 (ih h2 hb)
  | case3 => exact all_tail ha
  | case4 o rest ca tla ea tlb eb _ lg v cb' t ih =>
    obtain ⟨h1, h2⟩ := all_cons_split hb
    exact all_cons h1 (ih ha h2)
  | case5 => exact all_tail hb

theorem all_getT_go {ρ : Env} {n : Nat} {dl : Bool} {p : TPipe} {i : Nat}
    (hg : ∀ j, ∀ c ∈ (getT ρ p j).1, P c) (fuel t : Nat) {lg : Log} (acc : List Val) (hl : ∀ c ∈ lg, P c) :
    ∀ c ∈ (getT.go ρ n dl p i t fuel lg acc).1, P c := by
  induction fuel generalizing t lg acc with
  | zero => rw [getT.go]; exact hl
  | succ fuel ih =>
    rw [getT.go]
    have hj := hg (i * n + t)
    rcases h : getT ρ p (i * n + t) with ⟨l, r⟩
    rw [h] at hj
    have hll : ∀ c ∈ lg ++ l, P c := List.forall_mem_append.2 ⟨hl, hj⟩
    cases r with
    | ok v => exact ih _ _ hll
    | error er =>
      simp only
      split
      · exact ih _ _ hll
      · exact hll

theorem all_walkT {g : Nat → Log × Res Val} {E : List Err} (hg : ∀ j, ∀ c ∈ (g j).1, P c)
    (sel : List Nat) {pending : Log} (hp : ∀ c ∈ pending, P c) :
    ∀ c ∈ (walkT g E sel pending).fullLog, P c := by
  fun_induction walkT g E sel pending with
  | case1 => exact hp
  | case2 j rest pending lg v h t ih =>
    have hj : ∀ c ∈ lg, P c := by have := hg j; rwa [h] at this
    exact all_cons (List.forall_mem_append.2 ⟨hp, hj⟩) (ih (List.forall_mem_nil _))
  | case3 j rest pending lg e h _ ih =>
    have hj : ∀ c ∈ lg, P c := by have := hg j; rwa [h] at this
    exact ih (List.forall_mem_append.2 ⟨hp, hj⟩)
  | case4 j rest pending lg e h =>
    have hj : ∀ c ∈ lg, P c := by have := hg j; rwa [h] at this
    exact all_stop (List.forall_mem_append.2 ⟨hp, hj⟩)

theorem all_sliceT {ρ : Env} {p : TPipe} (hg : ∀ j, ∀ c ∈ (getT ρ p j).1, P c) (sel : List Nat) :
    ∀ c ∈ (sliceT ρ p sel).fullLog, P c := by
  rw [sliceT_eq_walkT]
  exact all_walkT hg sel (List.forall_mem_nil _)

theorem all_catchT {ρ : Env} {E : List Err} {p : TPipe} (hg : ∀ j, ∀ c ∈ (getT ρ p j).1, P c)
    (sel : List Nat) {pending : Log} (hp : ∀ c ∈ pending, P c) :
    ∀ c ∈ (catchT ρ E p sel pending).fullLog, P c := by
  rw [catchT_eq_walkT]
  exact all_walkT hg sel hp

theorem all_ite {c : Prop} [Decidable c] {a b : Log × Res Val} (ha : ∀ x ∈ a.1, P x) (hb : ∀ x ∈ b.1, P x) :
    ∀ x ∈ (if c then a else b).1, P x := by
  split
  · exact ha
  · exact hb

end

section
variable {a b : List Nat} {s : Nat} {L : Log}

theorem stage_mem_append_left (h : ∀ c ∈ L, c.stage ∈ a) : ∀ c ∈ L, c.stage ∈ a ++ b :=
  fun c hc => List.mem_append_left _ (h c hc)

theorem stage_mem_append_right (h : ∀ c ∈ L, c.stage ∈ b) : ∀ c ∈ L, c.stage ∈ a ++ b :=
  fun c hc => List.mem_append_right _ (h c hc)

theorem stage_mem_cons (h : ∀ c ∈ L, c.stage ∈ a) : ∀ c ∈ L, c.stage ∈ s :: a :=
  fun c hc => List.mem_cons_of_mem _ (h c hc)

end

theorem getT_stages (ρ : Env) (p : TPipe) : ∀ i, ∀ c ∈ (getT ρ p i).1, c.stage ∈ stages p := by
  induction p with
  | src | filter | unbatch | localShuffle | «catch» | reshuffle =>
    intro i; unfold getT; exact List.forall_mem_nil _
  | map sid f p ih =>
    intro i
    unfold getT
    have := ih i
    revert this
    rcases getT ρ p i with ⟨lg, r⟩
    intro this
    cases r with
    | ok v => exact List.forall_mem_append.2 ⟨stage_mem_cons this, List.forall_mem_singleton.2 List.mem_cons_self⟩
    | error er => exact stage_mem_cons this
  | batch n dl p ih => intro i; unfold getT; exact all_getT_go ih _ _ _ (List.forall_mem_nil _)
  | concat p q ihp ihq =>
    intro i
    unfold getT
    cases lenT p with
    | none => exact List.forall_mem_nil _
    | some n => exact all_ite (stage_mem_append_left (ihp _)) (stage_mem_append_right (ihq _))
  | slice sel p ih =>
    intro i
    unfold getT
    cases sel[i]? with
    | none => exact List.forall_mem_nil _
    | some j => exact ih j
  | zip p q ihp ihq =>
    intro i
    unfold getT
    have hp := ihp i
    have hq := ihq i
    revert hp hq
    rcases getT ρ p i with ⟨la, ra⟩
    rcases getT ρ q i with ⟨lb, rb⟩
    intro hp hq
    cases ra with
    | error er => exact stage_mem_append_left hp
    | ok a =>
      cases rb <;> exact List.forall_mem_append.2 ⟨stage_mem_append_left hp, stage_mem_append_right hq⟩
  | cache p ih => intro i; unfold getT; exact ih i
  | tile r p ih =>
    intro i
    unfold getT
    cases lenT p with
    | none => exact List.forall_mem_nil _
    | some n => exact all_ite (ih _) (List.forall_mem_nil _)
  | intersperse p q ihp ihq =>
    intro i
    unfold getT
    cases lenT p with
    | none => exact List.forall_mem_nil _
    | some n₁ =>
      cases lenT q with
      | none => exact List.forall_mem_nil _
      | some n₂ =>
        dsimp only
        cases (intersperseOrder [n₁, n₂])[i]? with
        | none => exact List.forall_mem_nil _
        | some o => exact all_ite (stage_mem_append_left (ihp _)) (stage_mem_append_right (ihq _))

theorem iterT_stages (ρ : Env) (p : TPipe) : ∀ c ∈ (iterT ρ p).fullLog, c.stage ∈ stages p := by
  induction p with
  | src xs =>
    rw [show (iterT ρ (.src xs)).fullLog = [] from (List.append_nil _).trans (flatten_map_fst_nil xs)]
    exact List.forall_mem_nil _
  | map sid f p ih => exact all_log_map (stage_mem_cons ih) fun _ => List.mem_cons_self
  | filter sid f p ih => exact all_log_filter (stage_mem_cons ih) (List.forall_mem_nil _) fun _ => List.mem_cons_self
  | batch n dl p ih => exact fullLog_batch n dl _ [] [] _ _ ▸ ih
  | unbatch p ih => exact all_log_unbatch ih (List.forall_mem_nil _)
  | concat p q ihp ihq => exact all_log_append (stage_mem_append_left ihp) (stage_mem_append_right ihq)
  | slice sel p | reshuffle sel p => exact all_sliceT (getT_stages ρ p) sel
  | zip p q ihp ihq => exact all_log_zip (stage_mem_append_left ihp) (stage_mem_append_right ihq)
  | localShuffle bs choices final p ih => exact all_log_local ih (List.forall_mem_nil _)
  | «catch» E p =>
    unfold iterT
    cases lenT p with
    | none => exact List.forall_mem_nil _
    | some n => exact all_catchT (getT_stages ρ p) _ (List.forall_mem_nil _)
  | cache p =>
    unfold iterT
    cases lenT p with
    | none => exact List.forall_mem_nil _
    | some n => exact all_sliceT (getT_stages ρ p) _
  | tile r p ih => exact all_log_tile ih r
  | intersperse p q ihp ihq =>
    unfold iterT
    cases lenT p with
    | none => exact List.forall_mem_nil _
    | some n₁ =>
      cases lenT q with
      | none => exact List.forall_mem_nil _
      | some n₂ => exact all_log_inter (stage_mem_append_left ihp) (stage_mem_append_right ihq)

/-! ### `batch` and the local shuffle: how far the loop has read when it hands out a result -/

/-- `d` = the number of inputs the current batch still waits for after the next one -/
theorem batch_logAfter (n : Nat) (dl : Bool) (cs : List (Log × Val)) (cur : List Val) (lg tl : Log)
    (e : Option Err) (d k : Nat) (hd : cur.length + 1 + d = n) (hm : k * n + d + 1 ≤ cs.length) :
    (batchT n dl cs cur lg tl e).logAfter (k + 1) = lg ++ ((cs.take (k * n + d + 1)).map (·.1)).flatten := by
  induction cs generalizing cur lg d k with
  | nil => exact absurd hm (Nat.not_succ_le_zero _)
  | cons c rest ih =>
    obtain ⟨l, v⟩ := c
    have hm' : k * n + d ≤ rest.length := Nat.le_of_succ_le_succ hm
    unfold batchT
    simp only [List.length_cons, List.take_succ_cons, List.map_cons, List.flatten_cons,
      ← List.append_assoc]
    cases d with
    | succ d =>
      rw [if_neg (by omega)]
      exact ih (v :: cur) (lg ++ l) d k ((Nat.succ_add_eq_add_succ _ _).trans hd) hm'
    | zero =>
      rw [if_pos (Nat.le_of_eq hd.symm), logAfter_cons_succ]
      cases k with
      | zero => rw [Nat.zero_mul]; rfl
      | succ k =>
        -- the next batch starts empty and waits for `n - 1 = cur.length` inputs after its first
        have hn : (k + 1) * n = k * n + cur.length + 1 := by rw [Nat.succ_mul, ← hd]; rfl
        rw [hn] at hm' ⊢
        rw [ih [] [] cur.length k ((Nat.add_comm _ _).trans hd) hm', List.nil_append]

/-- `d` = the number of inputs the buffer still waits for after the next one; once it is full it stays one short
    of full, so every further input releases one result -/
theorem local_logAfter (bs : Nat) (cs : List (Log × Val)) (buf : List Val) (lg : Log) (choices final : List Nat)
    (tl : Log) (e : Option Err) (d k : Nat) (hd : buf.length + 1 + d = bs) (hk : k + d + 1 ≤ cs.length)
    (hc : k + 1 ≤ choices.length) (hv : ∀ c ∈ choices.take (k + 1), c < bs) :
    (localT bs cs buf lg choices final tl e).logAfter (k + 1) =
      lg ++ ((cs.take (k + d + 1)).map (·.1)).flatten := by
  induction cs generalizing buf lg choices d k with
  | nil => exact absurd hk (Nat.not_succ_le_zero _)
  | cons c rest ih =>
    obtain ⟨l, v⟩ := c
    have hk' : k + d ≤ rest.length := Nat.le_of_succ_le_succ hk
    unfold localT
    simp only [List.length_append, List.length_cons, List.length_nil,
      List.take_succ_cons, List.map_cons, List.flatten_cons, ← List.append_assoc]
    cases d with
    | succ d =>
      rw [if_neg (by omega)]
      exact ih (buf ++ [v]) (lg ++ l) choices d k
        (by rw [List.length_append]; exact (Nat.succ_add_eq_add_succ _ _).trans hd) hk' hc hv
    | zero =>
      obtain ⟨c, cs', rfl⟩ : ∃ c cs', choices = c :: cs' := by
        cases choices with
        | nil => exact absurd hc (Nat.not_succ_le_zero _)
        | cons c cs' => exact ⟨c, cs', rfl⟩
      have hlen : c < (buf ++ [v]).length := by
        rw [List.length_append]; exact hd ▸ hv c List.mem_cons_self
      rw [if_pos (Nat.le_of_eq hd.symm)]
      simp only [List.getElem?_eq_getElem hlen, logAfter_cons_succ]
      cases k with
      | zero => rfl
      | succ k =>
        rw [ih ((buf ++ [v]).eraseIdx c) [] cs' 0 k
          (by rw [List.length_eraseIdx_of_lt hlen, List.length_append]; exact hd) hk'
          (Nat.le_of_succ_le_succ hc) (fun x hx => hv x (List.mem_cons_of_mem _ hx)), List.nil_append]

/-! ### `catch`: the index-driven walk that skips caught failures -/

section
variable {ρ : Env} {E : List Err} {p : TPipe} {j : Nat} {lg : Log}

theorem outcome_ok {v : Val} (h : getT ρ p j = (lg, .ok v)) :
    uncaught ρ E p j = false ∧ okVal ρ p j = some v := by
  simp [uncaught, okVal, h]

theorem outcome_caught {e : Err} (h : getT ρ p j = (lg, .error e)) (hc : e.isAny E = true) :
    uncaught ρ E p j = false ∧ okVal ρ p j = none := by
  simp [uncaught, okVal, h, hc]

theorem outcome_uncaught {e : Err} (h : getT ρ p j = (lg, .error e)) (hc : ¬e.isAny E = true) :
    uncaught ρ E p j = true ∧ errOf ρ p j = some e := by
  simp [uncaught, errOf, h, hc]
end

theorem catchStop_cons (ρ : Env) (E : List Err) (p : TPipe) (j : Nat) (rest : List Nat) :
    catchStop ρ E p (j :: rest) = if uncaught ρ E p j then 0 else catchStop ρ E p rest + 1 := by
  unfold catchStop
  rw [List.takeWhile_cons]
  cases uncaught ρ E p j <;> rfl

theorem catchStop_le (ρ : Env) (E : List Err) (p : TPipe) (sel : List Nat) : catchStop ρ E p sel ≤ sel.length :=
  (List.takeWhile_sublist _).length_le

theorem catchStop_before (ρ : Env) (E : List Err) (p : TPipe) (sel : List Nat) :
    ∀ j ∈ sel.take (catchStop ρ E p sel), uncaught ρ E p j = false := by
  induction sel with
  | nil => exact fun _ h => nomatch h
  | cons x rest ih =>
    rw [catchStop_cons]
    cases hx : uncaught ρ E p x with
    | true => exact fun _ h => nomatch h
    | false => exact List.forall_mem_cons.2 ⟨hx, ih⟩

theorem catchStop_at (ρ : Env) (E : List Err) (p : TPipe) (sel : List Nat) (j : Nat)
    (h : sel[catchStop ρ E p sel]? = some j) : uncaught ρ E p j = true := by
  induction sel with
  | nil => cases h
  | cons x rest ih =>
    rw [catchStop_cons] at h
    cases hx : uncaught ρ E p x with
    | true => rw [hx] at h; cases h; exact hx
    | false => rw [hx] at h; exact ih h

theorem iterT_catch {ρ : Env} {E : List Err} {p : TPipe} {n : Nat} (h : lenT p = some n) :
    iterT ρ (.catch E p) = catchT ρ E p (List.range n) [] := by
  unfold iterT
  rw [h]

/-- `m` = the number of positions evaluated when the consumer holds `k` results.  `pending` is part of the first
    chunk, so it is in the log only once a result has been handed out: hence `if m = 0`. -/
theorem catch_no_lookahead_gen (ρ : Env) (E : List Err) (p : TPipe) (sel : List Nat) (pending : Log) (k : Nat) :
    ∃ m, m ≤ sel.length ∧
      (catchT ρ E p sel pending).logAfter k =
        (if m = 0 then [] else pending) ++ ((sel.take m).map (fun j => (getT ρ p j).1)).flatten ∧
      (sel.take m).filterMap (okVal ρ p) = ((catchT ρ E p sel pending).chunks.take k).map (·.2) ∧
      (m = 0 ∨ ∃ j, sel[m - 1]? = some j ∧ (okVal ρ p j).isSome = true) := by
  fun_induction catchT ρ E p sel pending generalizing k with
  | case1 => exact ⟨0, Nat.le_refl _, by simp, by simp, Or.inl rfl⟩
  | case2 j rest pending lg v h t ih =>
    cases k with
    | zero => exact ⟨0, Nat.zero_le _, rfl, rfl, Or.inl rfl⟩
    | succ k =>
      obtain ⟨m, hm, h1, h2, h3⟩ := ih k
      have hv := (outcome_ok (E := E) h).2
      refine ⟨m + 1, Nat.succ_le_succ hm, ?_, ?_, Or.inr ?_⟩
      · simp [t, h1, h]
      · simp [t, hv, h2]
      · cases m with
        | zero => exact ⟨j, rfl, by rw [hv]; rfl⟩
        | succ m => exact h3.resolve_left (Nat.succ_ne_zero m)
  | case3 j rest pending lg e h hc ih =>
    obtain ⟨m, hm, h1, h2, h3⟩ := ih k
    have hv := (outcome_caught h hc).2
    cases m with
    | zero => exact ⟨0, Nat.zero_le _, h1, h2, Or.inl rfl⟩
    | succ m =>
      refine ⟨m + 2, Nat.succ_le_succ hm, ?_, ?_, Or.inr (h3.resolve_left (Nat.succ_ne_zero m))⟩
      · simpa [h] using h1
      · simpa [hv] using h2
  | case4 => exact ⟨0, Nat.zero_le _, by simp, by simp, Or.inl rfl⟩

theorem catch_logAfter_prefix (ρ : Env) (E : List Err) (p : TPipe) (sel : List Nat) (pending : Log) (k i : Nat)
    (hk : k ≤ ((sel.take i).filterMap (okVal ρ p)).length) :
    (catchT ρ E p sel pending).logAfter k <+:
      pending ++ ((sel.take i).map (fun j => (getT ρ p j).1)).flatten := by
  fun_induction catchT ρ E p sel pending generalizing k i with
  | case1 => rw [logAfter_nil]; exact List.nil_prefix
  | case2 j rest pending lg v h t ih =>
    cases k with
    | zero => exact List.nil_prefix
    | succ k =>
      cases i with
      | zero => exact absurd hk (Nat.not_succ_le_zero k)
      | succ i =>
        rw [List.take_succ_cons, List.filterMap_cons, (outcome_ok (E := E) h).2] at hk
        rw [logAfter_cons_succ, List.take_succ_cons, List.map_cons, List.flatten_cons, h,
          ← List.append_assoc]
        exact (List.prefix_append_right_inj _).2 (ih k i (Nat.le_of_succ_le_succ hk))
  | case3 j rest pending lg e h hc ih =>
    cases i with
    | zero => obtain rfl := Nat.le_zero.1 hk; exact List.nil_prefix
    | succ i =>
      rw [List.take_succ_cons, List.filterMap_cons, (outcome_caught h hc).2] at hk
      rw [List.take_succ_cons, List.map_cons, List.flatten_cons, h, ← List.append_assoc]
      exact ih k i hk
  | case4 => rw [logAfter_nil]; exact List.nil_prefix

/-! ### `intersperse` -/

theorem interT_tail (order : List OrdEntry) (ca cb : List (Log × Val)) (tla tlb : Log) (ea eb : Option Err)
    (h : (interT order ca tla ea cb tlb eb).err = none) : (interT order ca tla ea cb tlb eb).tail = [] := by
  fun_induction interT order ca tla ea cb tlb eb with
  | case1 => rfl
  | case2 o rest tla ea cb tlb eb _ lg v ca' t ih | case4 o rest ca tla ea tlb eb _ lg v cb' t ih => exact ih h
  | case3 | case5 => cases h

theorem drop_cases {α} (l : List α) (n : Nat) :
    (l.drop n = [] ∧ l[n]? = none) ∨ ∃ x, l.drop n = x :: l.drop (n + 1) ∧ l[n]? = some x := by
  by_cases h : n < l.length
  · exact Or.inr ⟨l[n], List.drop_eq_getElem_cons h, List.getElem?_eq_getElem h⟩
  · exact Or.inl ⟨List.drop_eq_nil_of_le (Nat.le_of_not_lt h), List.getElem?_eq_none (Nat.le_of_not_lt h)⟩

/-- the chunks of a traced stream read as a Layer A stream (the tail is dropped), so that the lemmas about
    `intersperseRun` apply to them -/
def TStream.chunkStream (t : TStream) : Stream (Log × Val) := ⟨t.chunks, t.err⟩

/-- the traced interleaver is Layer A's `intersperseRun` on the two streams of chunks (started with `pa`, `pb`
    chunks consumed), so what is known about `intersperseRun` holds for the chunks -/
theorem interT_run (A B : List (Log × Val)) (tla tlb : Log) (ea eb : Option Err) (order : List OrdEntry)
    (hd : ∀ o ∈ order, o.d < 2) (pa pb : Nat) :
    (interT order (A.drop pa) tla ea (B.drop pb) tlb eb).chunkStream =
      intersperseRun [⟨A, ea⟩, ⟨B, eb⟩] order [pa, pb] := by
  induction order generalizing pa pb with
  | nil => rfl
  | cons o rest ih =>
    have ih := ih (fun o ho => hd o (List.mem_cons_of_mem _ ho))
    rw [intersperseRun]
    rcases Nat.lt_succ_iff_lt_or_eq.1 (hd o List.mem_cons_self) with h | h
    · have h0 := Nat.lt_one_iff.1 h
      rcases drop_cases A pa with ⟨h1, h2⟩ | ⟨c, h1, h2⟩
      · rw [h1, interT.eq_def]
        simp only [h0, List.getElem?_cons_zero, h2]
        cases ea <;> rfl
      · rw [h1, interT.eq_def]
        simp only [h0, List.getElem?_cons_zero, h2, List.set_cons_zero, ← ih]
        rfl
    · rcases drop_cases B pb with ⟨h1, h2⟩ | ⟨c, h1, h2⟩
      · rw [h1, interT.eq_def]
        simp only [h, List.getElem?_cons_succ, List.getElem?_cons_zero, h2]
        cases eb <;> rfl
      · rw [h1, interT.eq_def]
        simp only [h, List.getElem?_cons_succ, List.getElem?_cons_zero, h2, List.set_cons_succ,
          List.set_cons_zero, ← ih]
        rfl

theorem interT_order (A B : List (Log × Val)) (tla tlb : Log) (ea eb : Option Err) :
    (interT (intersperseOrder [A.length, B.length]) A tla ea B tlb eb).chunks.map some =
        (intersperseOrder [A.length, B.length]).map (fun o => if o.d == 0 then A[o.j]? else B[o.j]?) ∧
    (interT (intersperseOrder [A.length, B.length]) A tla ea B tlb eb).tail = [] ∧
    (interT (intersperseOrder [A.length, B.length]) A tla ea B tlb eb).err = none := by
  have hd : ∀ o ∈ intersperseOrder [A.length, B.length], o.d < 2 := fun o ho => (order_entries _ o ho).1
  have hr := interT_run A B tla tlb ea eb _ hd 0 0
  obtain ⟨r1, r2⟩ := intersperseRun_eq [A.length, B.length] [⟨A, ea⟩, ⟨B, eb⟩] rfl (fun i hi => by
    cases i with
    | zero => exact Nat.le_refl _
    | succ i =>
      cases i with
      | zero => exact Nat.le_refl _
      | succ i => exact absurd hi (by simp))
  have he : (interT (intersperseOrder [A.length, B.length]) A tla ea B tlb eb).err = none :=
    (congrArg Stream.err hr).trans r1
  refine ⟨((congrArg (·.vals.map some) hr).trans r2).trans (List.map_congr_left fun o ho => ?_),
    interT_tail _ _ _ _ _ _ _ he, he⟩
  rcases Nat.lt_succ_iff_lt_or_eq.1 (hd o ho) with h | h
  · rw [Nat.lt_one_iff.1 h]; rfl
  · rw [h]; rfl

end LazyDs.Trace
