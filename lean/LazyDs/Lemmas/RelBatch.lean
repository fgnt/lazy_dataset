import LazyDs.Lemmas.Rel
/-
  `BatchDataset` refines `Ref.batch`.

  One description serves the three programs (the eager chunking `Ref.chunks` of the reference, the
  generator loop `chunkAux`, the index walk `batchCollect`): the `k`-th batch of a list `l` is the
  window `(l.drop (k * bs)).take bs`, and it exists when it starts inside `l` and, with `drop_last`,
  is full.

  Why `rel_batch_partial` has a hypothesis for `dropLast = true`.
  `BatchDataset.__getitem__(k)` with `drop_last` does not look at `len`; it probes
  `input[k*bs], input[k*bs+1], …` and re-raises whatever the first failing probe raises.
  For `k = n / bs` (the first index past the end) the probes walk through the dropped tail
  `input[(n/bs)*bs :]` before they run off the input.  If an example in that tail raises, say,
  `ValueError`, then `ds[len(ds)]` raises `ValueError`, whereas list indexing of the eager
  reference (`Ref.batch … |>.outs`, which does not contain the dropped tail) raises `IndexError`.
  The refinement holds exactly when no outcome in the dropped tail is a failure.
-/
namespace LazyDs

/-! ### the generator loop: `chunkAux` -/

theorem chunkAux_flatten_gen {α} (bs : Nat) : ∀ (l cur : List α),
    (chunkAux bs false l cur).flatten = cur.reverse ++ l
  | [], [] => rfl
  | [], c :: cs => by
    show ([(c :: cs).reverse] : List (List α)).flatten = _
    rw [List.flatten_singleton, List.append_nil]
  | x :: xs, cur => by
    unfold chunkAux
    by_cases h : (x :: cur).length ≥ bs
    · rw [if_pos h, List.flatten_cons, chunkAux_flatten_gen bs xs [], List.reverse_cons, List.append_assoc]
      rfl
    · rw [if_neg h, chunkAux_flatten_gen bs xs (x :: cur), List.reverse_cons, List.append_assoc]
      rfl

/-- batch then unbatch is the identity (the list law) -/
theorem chunkAux_flatten {α} {bs : Nat} (l : List α) :
    (chunkAux bs false l []).flatten = l :=
  chunkAux_flatten_gen bs l []

/-! ### the eager chunking: `Ref.chunks` -/

theorem chunks_nil {α} (bs fuel : Nat) : Ref.chunks bs ([] : List α) fuel = [] := by
  cases fuel <;> rfl

theorem chunks_cons {α} (bs fuel : Nat) (a : α) (l : List α) :
    Ref.chunks bs (a :: l) (fuel + 1) = (a :: l).take bs :: Ref.chunks bs ((a :: l).drop bs) fuel := rfl

theorem chunks_rest_lt {α} {bs fuel : Nat} (hbs : 1 ≤ bs) {a : α} {l : List α}
    (h : (a :: l).length < fuel + 1) : ((a :: l).drop bs).length < fuel := by
  rw [List.length_drop]
  simp only [List.length_cons] at h ⊢
  omega

theorem chunks_getElem? {α} {bs : Nat} (hbs : 1 ≤ bs) : ∀ (fuel : Nat) (l : List α), l.length < fuel →
    ∀ k, (Ref.chunks bs l fuel)[k]? =
      if k * bs < l.length then some ((l.drop (k * bs)).take bs) else none
  | fuel + 1, [], _, k => by rw [chunks_nil]; exact (if_neg (Nat.not_lt_zero _)).symm
  | fuel + 1, a :: l, h, k => by
    rw [chunks_cons]
    cases k with
    | zero => rw [Nat.zero_mul]; exact (if_pos (Nat.succ_pos _)).symm
    | succ k =>
      rw [List.getElem?_cons_succ, chunks_getElem? hbs fuel _ (chunks_rest_lt hbs h) k, List.drop_drop,
        List.length_drop, Nat.succ_mul, Nat.add_comm bs]
      simp only [Nat.lt_sub_iff_add_lt]

theorem chunks_elem_length {α} {bs : Nat} (hbs : 1 ≤ bs) (fuel : Nat) (l : List α) (h : l.length < fuel)
    (k : Nat) (c : List α) (hc : (Ref.chunks bs l fuel)[k]? = some c) :
    c.length = min bs (l.length - k * bs) ∧ 1 ≤ c.length := by
  rw [chunks_getElem? hbs fuel l h k] at hc
  split at hc
  · injection hc with hc
    subst hc
    simp only [List.length_take, List.length_drop]
    exact ⟨trivial, by omega⟩
  · cases hc

theorem chunks_filter_full {α} {bs : Nat} (hbs : 1 ≤ bs) : ∀ (fuel : Nat) (l : List α), l.length < fuel →
    (Ref.chunks bs l fuel).filter (·.length == bs) = (Ref.chunks bs l fuel).take (l.length / bs)
  | fuel + 1, [], _ => by rw [chunks_nil, List.take_nil]; rfl
  | fuel + 1, a :: l, h => by
    rw [chunks_cons, List.filter_cons]
    by_cases hfull : bs ≤ (a :: l).length
    · -- a full first chunk is kept, and `|l| / bs` is one more than for the rest
      rw [List.length_take_of_le hfull, beq_self_eq_true, if_pos rfl, Nat.div_eq_sub_div hbs hfull,
        List.take_succ_cons, chunks_filter_full hbs fuel _ (chunks_rest_lt hbs h), List.length_drop]
    · -- a partial first chunk is the only one
      have hlt : (a :: l).length < bs := Nat.lt_of_not_le hfull
      have hne : (((a :: l).take bs).length == bs) = false := by
        rw [List.take_of_length_le (Nat.le_of_lt hlt)]; exact beq_eq_false_iff_ne.2 (Nat.ne_of_lt hlt)
      rw [hne, if_neg Bool.false_ne_true, List.drop_eq_nil_of_le (Nat.le_of_lt hlt), chunks_nil,
        Nat.div_eq_of_lt hlt]
      rfl

/-! ### the generator loop and the eager chunking agree -/

theorem chunkAux_eq_chunks_gen {α} {bs : Nat} : ∀ (l cur : List α) (fuel : Nat), cur.length < bs →
    l.length < fuel → chunkAux bs false l cur = Ref.chunks bs (cur.reverse ++ l) fuel
  | _, _, 0, _, hf => absurd hf (Nat.not_lt_zero _)
  | [], cur, fuel + 1, hc, _ => by
    cases cur with
    | nil => rfl
    | cons c cs =>
      -- the trailing partial batch is the only chunk of what is left
      have hlen : (c :: cs).reverse.length ≤ bs := by rw [List.length_reverse]; exact Nat.le_of_lt hc
      have hne : (c :: cs).reverse.isEmpty = false := by
        rw [List.reverse_cons]; cases cs.reverse <;> rfl
      rw [List.append_nil, Ref.chunks, hne, List.take_of_length_le hlen, List.drop_eq_nil_of_le hlen,
        chunks_nil]
      rfl
  | x :: xs, cur, fuel + 1, hc, hf => by
    have hf' : xs.length < fuel := Nat.lt_of_succ_lt_succ hf
    have hne : (cur.reverse ++ x :: xs).isEmpty = false := by cases cur.reverse <;> rfl
    unfold chunkAux
    by_cases h : (x :: cur).length ≥ bs
    · -- the batch is complete: it is the first chunk
      have hlen : (cur.reverse ++ [x]).length = bs := by
        rw [List.length_append, List.length_reverse]
        exact Nat.le_antisymm hc h
      rw [Ref.chunks, hne, if_pos h, if_neg Bool.false_ne_true, List.append_cons, List.take_left' hlen,
        List.drop_left' hlen, List.reverse_cons]
      exact congrArg _ (chunkAux_eq_chunks_gen xs [] fuel (Nat.lt_of_le_of_lt (Nat.zero_le _) hc) hf')
    · rw [if_neg h, chunkAux_eq_chunks_gen xs (x :: cur) (fuel + 1) (Nat.lt_of_not_le h)
        (Nat.lt_succ_of_lt hf'), List.reverse_cons, List.append_assoc]
      rfl

theorem chunkAux_eq_chunks {α} {bs : Nat} (hbs : 1 ≤ bs) (l : List α) :
    chunkAux bs false l [] = Ref.chunks bs l (l.length + 1) :=
  chunkAux_eq_chunks_gen l [] (l.length + 1) hbs (Nat.lt_succ_self _)

theorem chunkAux_true_eq {α} {bs : Nat} : ∀ (l cur : List α), cur.length < bs →
    chunkAux bs true l cur = (chunkAux bs false l cur).filter (·.length == bs)
  | [], [], _ => rfl
  | [], c :: cs, hc => by
    have hne : ((c :: cs).reverse.length == bs) = false := by
      rw [List.length_reverse]; exact beq_eq_false_iff_ne.2 (Nat.ne_of_lt hc)
    show [] = List.filter _ [(c :: cs).reverse]
    rw [List.filter_cons, hne]
    rfl
  | x :: xs, cur, hc => by
    unfold chunkAux
    by_cases h : (x :: cur).length ≥ bs
    · have hl : ((x :: cur).reverse.length == bs) = true := by
        rw [List.length_reverse]; exact beq_iff_eq.2 (Nat.le_antisymm hc h)
      rw [if_pos h, if_pos h, List.filter_cons, hl, if_pos rfl,
        chunkAux_true_eq xs [] (Nat.lt_of_le_of_lt (Nat.zero_le _) hc)]
    · rw [if_neg h, if_neg h]
      exact chunkAux_true_eq xs (x :: cur) (Nat.lt_of_not_le h)

theorem chunkAux_dropLast {α} {bs : Nat} (hbs : 1 ≤ bs) (l : List α) :
    chunkAux bs true l [] = (Ref.chunks bs l (l.length + 1)).filter (·.length == bs) := by
  rw [chunkAux_true_eq l [] hbs, chunkAux_eq_chunks hbs]

theorem chunkAux_getElem? {α} {bs : Nat} (hbs : 1 ≤ bs) (dl : Bool) (l : List α) (k : Nat) :
    (chunkAux bs dl l [])[k]? =
      if k * bs < l.length ∧ (dl = true → (k + 1) * bs ≤ l.length)
      then some ((l.drop (k * bs)).take bs) else none := by
  cases dl with
  | false =>
    rw [chunkAux_eq_chunks hbs, chunks_getElem? hbs _ _ (Nat.lt_add_one _)]
    simp only [Bool.false_eq_true, false_implies, and_true]
  | true =>
    rw [chunkAux_dropLast hbs, chunks_filter_full hbs _ _ (Nat.lt_add_one _), List.getElem?_take,
      chunks_getElem? hbs _ _ (Nat.lt_add_one _) k]
    have hiff : k < l.length / bs ↔ (k + 1) * bs ≤ l.length := Nat.le_div_iff_mul_le hbs
    by_cases hk : (k + 1) * bs ≤ l.length
    · have h1 : k * bs < l.length := by rw [Nat.succ_mul] at hk; omega
      rw [if_pos (hiff.2 hk), if_pos h1, if_pos ⟨h1, fun _ => hk⟩]
    · rw [if_neg (mt hiff.1 hk), if_neg fun h => hk (h.2 rfl)]

theorem chunkAux_length {α} {bs : Nat} (hbs : 1 ≤ bs) (dl : Bool) (l : List α) :
    (chunkAux bs dl l []).length = if dl then l.length / bs else (l.length + bs - 1) / bs := by
  have hC : ∀ k, (k * bs < l.length ∧ (dl = true → (k + 1) * bs ≤ l.length)) ↔
      k < (if dl then l.length / bs else (l.length + bs - 1) / bs) := by
    intro k
    have hfloor : k < l.length / bs ↔ (k + 1) * bs ≤ l.length := Nat.le_div_iff_mul_le hbs
    have hceil : k < (l.length + bs - 1) / bs ↔ k * bs < l.length := by
      rw [Nat.lt_div_iff_mul_lt hbs, Nat.add_sub_assoc hbs, Nat.add_sub_cancel]
    have hmul : (k + 1) * bs = k * bs + bs := Nat.succ_mul k bs
    cases dl with
    | false => simpa only [Bool.false_eq_true, false_implies, and_true, if_false] using hceil.symm
    | true => simp only [if_true, true_implies, hfloor]; omega
  refine List.length_eq_of_getElem?_eq_none_iff fun k => ?_
  rw [chunkAux_getElem? hbs, ite_eq_right_iff, hC k]
  simp only [reduceCtorEq, imp_false, Nat.not_lt]

theorem chunkAux_mem {α} {bs : Nat} {dl : Bool} (hbs : 1 ≤ bs) {l c : List α}
    (hc : c ∈ chunkAux bs dl l []) : ∃ k, k * bs < l.length ∧ c = (l.drop (k * bs)).take bs := by
  obtain ⟨k, hk⟩ := List.getElem?_of_mem hc
  rw [chunkAux_getElem? hbs, Option.ite_none_right_eq_some] at hk
  exact ⟨k, hk.1.1, (Option.some.inj hk.2).symm⟩

theorem chunkAux_lengths {α} {bs : Nat} {dl : Bool} (hbs : 1 ≤ bs) (l : List α) :
    ∀ c ∈ chunkAux bs dl l [], 1 ≤ c.length ∧ c.length ≤ bs := by
  intro c hc
  obtain ⟨k, hk, rfl⟩ := chunkAux_mem hbs hc
  rw [List.length_take, List.length_drop]
  omega

/-! ### the batches of the reference; the loop forms the same ones -/

/-- the batches `Ref.batch` forms from the positional outcomes -/
def batches {α} (n : Nat) (dl : Bool) (l : List α) : List (List α) :=
  let cs := Ref.chunks n l (l.length + 1)
  if dl then cs.filter (·.length == n) else cs

theorem chunks_map {α β} (g : α → β) (n fuel : Nat) (l : List α) :
    Ref.chunks n (l.map g) fuel = (Ref.chunks n l fuel).map (List.map g) := by
  induction fuel generalizing l with
  | zero => rfl
  | succ fuel ih =>
    cases l with
    | nil => rfl
    | cons a l =>
      rw [List.map_cons, chunks_cons, ← List.map_cons, ← List.map_take, ← List.map_drop, ih]
      rfl

theorem chunks_mem {α} (n fuel : Nat) (l : List α) : ∀ c ∈ Ref.chunks n l fuel, ∀ o ∈ c, o ∈ l := by
  induction fuel generalizing l with
  | zero => exact fun _ hc => nomatch hc
  | succ fuel ih =>
    cases l with
    | nil => exact fun _ hc => nomatch hc
    | cons a l =>
      intro c hc o ho
      rcases List.mem_cons.mp hc with rfl | hc
      · exact List.mem_of_mem_take ho
      · exact List.mem_of_mem_drop (ih _ c hc o ho)

theorem batches_map {α β} (g : α → β) (n : Nat) (dl : Bool) (l : List α) :
    batches n dl (l.map g) = (batches n dl l).map (List.map g) := by
  simp only [batches, List.length_map, chunks_map]
  cases dl
  · rfl
  · simp only [if_true, List.filter_map]
    exact congrArg _ (List.filter_congr fun c _ => by rw [Function.comp, List.length_map])

theorem batches_mem {α} {n : Nat} {dl : Bool} {l : List α} {c : List α} (hc : c ∈ batches n dl l) :
    ∀ o ∈ c, o ∈ l := by
  cases dl
  · exact chunks_mem n _ _ c hc
  · exact chunks_mem n _ _ c (List.mem_filter.mp hc).1

theorem chunkAux_eq_batches {α} {bs : Nat} (hbs : 1 ≤ bs) (dl : Bool) (l : List α) :
    chunkAux bs dl l [] = batches bs dl l := by
  cases dl
  · exact chunkAux_eq_chunks hbs l
  · exact chunkAux_dropLast hbs l

theorem chunkAux_map {α β} (g : α → β) {bs : Nat} (hbs : 1 ≤ bs) (dl : Bool) (l : List α) :
    chunkAux bs dl (l.map g) [] = (chunkAux bs dl l []).map (List.map g) := by
  rw [chunkAux_eq_batches hbs, chunkAux_eq_batches hbs, batches_map]

/-- no arithmetic here: the two loops run in step -/
theorem chunkAux_true_prefix {α} (bs : Nat) (dl : Bool) (rest : List α) : ∀ (l cur : List α),
    chunkAux bs true l cur <+: chunkAux bs dl (l ++ rest) cur
  | [], cur => by
    rw [chunkAux, Bool.not_true, Bool.and_false]
    exact List.nil_prefix
  | x :: xs, cur => by
    rw [List.cons_append]
    unfold chunkAux
    simp only []
    split
    · exact (List.prefix_cons_inj _).2 (chunkAux_true_prefix bs dl rest xs [])
    · exact chunkAux_true_prefix bs dl rest xs (x :: cur)

/-! ### `List.mapM id` on outcomes, `chunkOut` -/

theorem mapM_id_error (c : List (Res Val)) (e : Err) (h : c.mapM id = .error e) : .error e ∈ c := by
  obtain ⟨o, ho, rfl⟩ := List.mapM_error_mem h
  exact ho

theorem mapM_id_ok (c : List (Res Val)) (vs : List Val) (h : c.mapM id = .ok vs) :
    ∀ o ∈ c, ∃ v, o = .ok v := fun _ ho =>
  (List.mapM_ok_of_mem h ho).elim fun v hv => ⟨v, hv.2⟩

theorem mapM_id_allOk : ∀ (c : List (Res Val)), (∀ o ∈ c, ∃ v, o = .ok v) → ∃ vs, c.mapM id = .ok vs
  | [], _ => ⟨[], rfl⟩
  | o :: c, h => by
    obtain ⟨v, rfl⟩ := h o List.mem_cons_self
    obtain ⟨vs, hvs⟩ := mapM_id_allOk c (fun o ho => h o (List.mem_cons_of_mem _ ho))
    exact ⟨v :: vs, List.mapM_cons_eq_ok_iff.2 ⟨rfl, hvs⟩⟩

theorem chunkOut_error (c : List (Res Val)) (e : Err) (h : Ref.chunkOut c = .error e) : .error e ∈ c := by
  unfold Ref.chunkOut at h
  cases hc : c.mapM id with
  | error e' =>
    rw [hc] at h
    have : e' = e := by injection h
    subst this
    exact mapM_id_error c e' hc
  | ok vs => rw [hc] at h; cases h

/-! ### the outcome list of `Ref.batch` in closed form -/

theorem batch_outs_eq {bs : Nat} (hbs : 1 ≤ bs) (dl : Bool) (r : RefDS) :
    (Ref.batch bs dl r).outs = (chunkAux bs dl r.outs []).map Ref.chunkOut := by
  rw [chunkAux_eq_batches hbs]; rfl

theorem batch_outAt {bs : Nat} (hbs : 1 ≤ bs) (dl : Bool) (r : RefDS) (k : Nat) :
    outAt (Ref.batch bs dl r).outs (k : Int) =
      if k * bs < r.outs.length ∧ (dl = true → (k + 1) * bs ≤ r.outs.length)
      then Ref.chunkOut ((r.outs.drop (k * bs)).take bs) else .error .indexError := by
  rw [outAt_nat, batch_outs_eq hbs, List.getElem?_map, chunkAux_getElem? hbs]
  by_cases hc : k * bs < r.outs.length ∧ (dl = true → (k + 1) * bs ≤ r.outs.length)
  · rw [if_pos hc, if_pos hc]; rfl
  · rw [if_neg hc, if_neg hc]; rfl

theorem batch_len_ok {bs n : Nat} (hbs : 1 ≤ bs) (dl : Bool) {r : RefDS} (hl : r.len = .ok n) :
    (Ref.batch bs dl r).len = .ok (if dl then n / bs else (n + bs - 1) / bs) := by
  have hb : (bs == 0) = false := beq_eq_false_iff_ne.2 (Nat.ne_of_gt hbs)
  simp only [Ref.batch, hl, hb, Bool.false_eq_true, if_false]
  cases dl <;> rfl

theorem batch_len_eq {bs : Nat} (hbs : 1 ≤ bs) (dl : Bool) (r : RefDS) (hl : r.len = .ok r.outs.length) :
    (Ref.batch bs dl r).len = .ok (Ref.batch bs dl r).outs.length := by
  rw [batch_len_ok hbs dl hl, batch_outs_eq hbs, List.length_map, chunkAux_length hbs]

/-! ### the index walk `batchCollect` -/

/-- The walk collects the window `L[b+t : b+t+fuel]` (as `List.mapM id`: the values, or the first
    failure).  Where the window runs past the end of `L` the probes raise `IndexError`, which is
    passed on only by the very first probe (`t = 0`) and, with `drop_last`, by every probe. -/
theorem batchCollect_spec {d : DS} {L : List (Res Val)} (hg : ∀ i, d.getInt i = outAt L i)
    (hno : ∀ o ∈ L, o ≠ .error .indexError) (dl : Bool) (b : Nat) : ∀ (fuel t : Nat),
    batchCollect d dl (b : Int) fuel t =
      if ((L.drop (b + t)).take fuel).length < fuel ∧ (dl = true ∨ (t = 0 ∧ L.length ≤ b)) then
        ((L.drop (b + t)).take fuel).mapM id >>= fun _ => .error .indexError
      else ((L.drop (b + t)).take fuel).mapM id
  | 0, t => by
    rfl
  | fuel + 1, t => by
    have ih := batchCollect_spec hg hno dl b fuel (t + 1)
    unfold batchCollect
    rw [← Int.natCast_add, hg, ih, ← Nat.add_assoc]
    by_cases hlt : b + t < L.length
    · rw [outAt_lt L _ hlt, List.drop_eq_getElem_cons hlt, List.take_succ_cons, List.mapM_cons]
      -- this probe is in range, so the clause about the very first probe applies neither to it nor
      -- to the later ones: what is left is the condition of `drop_last`
      have h1 : ¬ (t + 1 = 0 ∧ L.length ≤ b) := fun h => Nat.succ_ne_zero t h.1
      have h2 : ¬ (t = 0 ∧ L.length ≤ b) := fun h =>
        Nat.not_le_of_lt hlt (Nat.le_trans h.2 (Nat.le_add_right b t))
      simp only [h1, h2, or_false, List.length_cons, Nat.add_lt_add_iff_right]
      cases ho : L[b + t] with
      | ok v =>
        by_cases hc : ((L.drop (b + t + 1)).take fuel).length < fuel ∧ dl = true
        · rw [if_pos hc, if_pos hc]; cases ((L.drop (b + t + 1)).take fuel).mapM id <;> rfl
        · rw [if_neg hc, if_neg hc]; rfl
      | error e =>
        have hne : (e == Err.indexError) = false :=
          beq_eq_false_iff_ne.2 fun he => hno _ (List.getElem_mem hlt) (he ▸ ho)
        simp only [hne, Bool.false_eq_true, if_false]
        split <;> rfl
    · -- past the end: nothing is left to collect
      have hle : L.length ≤ b + t := Nat.le_of_not_lt hlt
      rw [outAt_ge L _ (Int.ofNat_le.2 hle), List.drop_eq_nil_of_le hle,
        List.drop_eq_nil_of_le (Nat.le_succ_of_le hle)]
      cases dl
      · cases t with
        | zero => simp [show L.length ≤ b from hle]
        | succ t => simp
      · simp

/-- the `else` branch: past the end the walk goes through what is left of the input before it raises
    `IndexError`, so that a failure there comes first -/
theorem batch_getNat {d : DS} {L : List (Res Val)} {bs : Nat} (hbs : 1 ≤ bs) (dl : Bool)
    (hg : ∀ i, d.getInt i = outAt L i) (hno : ∀ o ∈ L, o ≠ .error .indexError) (k : Nat) :
    (do let l ← batchCollect d dl ((k : Int) * bs) bs 0; (.ok (.list l) : Res Val)) =
      if k * bs < L.length ∧ (dl = true → (k + 1) * bs ≤ L.length)
      then Ref.chunkOut ((L.drop (k * bs)).take bs)
      else (L.drop (k * bs)).mapM id >>= fun _ => .error .indexError := by
  rw [← Int.natCast_mul, batchCollect_spec hg hno, Nat.add_zero]
  -- the window is short and a probe that counts is past the end exactly when there is no `k`-th batch
  have hiff : (((L.drop (k * bs)).take bs).length < bs ∧ (dl = true ∨ (0 = 0 ∧ L.length ≤ k * bs))) ↔
      ¬ (k * bs < L.length ∧ (dl = true → (k + 1) * bs ≤ L.length)) := by
    rw [List.length_take, List.length_drop, Nat.succ_mul]
    cases dl <;> simp only [Bool.false_eq_true, false_implies, true_implies, false_or, true_or, and_true,
      true_and] <;> omega
  by_cases hc : k * bs < L.length ∧ (dl = true → (k + 1) * bs ≤ L.length)
  · rw [if_pos hc, if_neg fun h => hiff.1 h hc]
    rfl
  · -- what is left of `L` is then shorter than a batch
    have hshort := hiff.2 hc
    have hle : (L.drop (k * bs)).length ≤ bs := by
      have := hshort.1
      rw [List.length_take] at this
      omega
    rw [if_neg hc, if_pos hshort, List.take_of_length_le hle]
    cases (L.drop (k * bs)).mapM id <;> rfl

/-- no failure in the part of the input that `drop_last` drops -/
def TailOk (bs : Nat) (outs : List (Res Val)) : Prop :=
  ∀ o ∈ outs.drop (outs.length / bs * bs), ∃ v, o = .ok v

/-- The refinement of `BatchDataset`, in its strongest true form: with `drop_last` the part of the
    input that is dropped must not contain a failing example (see `rel_batch_iff` for the converse and
    `rel_batch_counterexample` for what goes wrong otherwise). -/
theorem rel_batch_partial {d : DS} {r : RefDS} {bs : Nat} {dropLast : Bool} (h : Rel d r) (hbs : 1 ≤ bs)
    (htail : r.indexable = true → dropLast = true → TailOk bs r.outs) :
    Rel (batchDS bs dropLast d) (Ref.batch bs dropLast r) where
  indexable := h.indexable
  len := by simp only [batchDS, batchLen, Ref.batch, h.len]
  keys := rfl
  iter := by simp only [batchDS, Ref.batch, h.iter]
  iterK := rfl
  idx := by
    intro hi
    obtain ⟨hl, hg⟩ := h.idx hi
    have hlen := batch_len_eq hbs dropLast r hl
    have hblen : batchLen bs dropLast d = .ok (Ref.batch bs dropLast r).outs.length := by
      rw [← hlen]; simp only [batchLen, Ref.batch, h.len]
    refine ⟨hlen, fun i => ?_⟩
    -- a negative index is normalised with `len`; what is left is the walk at a natural number
    rw [← normWalk_eq (walk := fun j => do let l ← batchCollect d dropLast (j * bs) bs 0; .ok (.list l))
      (fun k => ?_) i]
    · simp only [batchDS, hblen, ok_bind]
    · rw [batch_getNat hbs dropLast hg (h.noIdxErr hi), batch_outAt hbs]
      by_cases hc : k * bs < r.outs.length ∧ (dropLast = true → (k + 1) * bs ≤ r.outs.length)
      · rw [if_pos hc, if_pos hc]
      · rw [if_neg hc, if_neg hc]
        -- what is left of the input is empty, or lies in the dropped tail: no failure there
        obtain ⟨vs, hvs⟩ := mapM_id_allOk (r.outs.drop (k * bs)) fun o ho => by
          by_cases hk : k * bs < r.outs.length
          · cases dropLast with
            | false => exact absurd ⟨hk, nofun⟩ hc
            | true =>
              have hq : r.outs.length / bs ≤ k := Nat.le_of_lt_succ
                ((Nat.div_lt_iff_lt_mul hbs).2 (Nat.lt_of_not_le fun h => hc ⟨hk, fun _ => h⟩))
              exact htail hi rfl o (List.drop_subset_drop_left _ (Nat.mul_le_mul_right bs hq) ho)
          · rw [List.drop_eq_nil_of_le (Nat.le_of_not_lt hk)] at ho; cases ho
        rw [hvs]; rfl
  noIdxErr := by
    intro hi o ho hoe
    rw [batch_outs_eq hbs] at ho
    obtain ⟨c, hc, rfl⟩ := List.mem_map.1 ho
    obtain ⟨k, _, rfl⟩ := chunkAux_mem hbs hc
    exact h.noIdxErr hi _ (List.mem_of_mem_drop (List.mem_of_mem_take (chunkOut_error _ _ hoe))) rfl
  keysLen := by intro _ ks hk; cases hk
  getKey := by intro _ ks hk; cases hk

theorem rel_batch_keep {d : DS} {r : RefDS} {bs : Nat} (h : Rel d r) (hbs : 1 ≤ bs) :
    Rel (batchDS bs false d) (Ref.batch bs false r) :=
  rel_batch_partial h hbs (fun _ hdl => by cases hdl)

theorem rel_batch_allOk {d : DS} {r : RefDS} {bs : Nat} {dropLast : Bool} (h : Rel d r) (hbs : 1 ≤ bs)
    (hok : ∀ o ∈ r.outs, ∃ v, o = .ok v) : Rel (batchDS bs dropLast d) (Ref.batch bs dropLast r) :=
  rel_batch_partial h hbs (fun _ _ o ho => hok o (List.mem_of_mem_drop ho))

theorem rel_batch_dvd {d : DS} {r : RefDS} {bs : Nat} {dropLast : Bool} (h : Rel d r) (hbs : 1 ≤ bs)
    (hdvd : r.outs.length % bs = 0) : Rel (batchDS bs dropLast d) (Ref.batch bs dropLast r) :=
  rel_batch_partial h hbs (fun _ _ o ho => by
    have h1 := Nat.div_add_mod r.outs.length bs
    rw [hdvd, Nat.add_zero, Nat.mul_comm] at h1
    rw [h1, List.drop_eq_nil_of_le (Nat.le_refl _)] at ho
    cases ho)

/-- the side condition of `rel_batch_partial` is necessary -/
theorem rel_batch_iff {d : DS} {r : RefDS} {bs : Nat} {dropLast : Bool} (h : Rel d r) (hbs : 1 ≤ bs) :
    Rel (batchDS bs dropLast d) (Ref.batch bs dropLast r) ↔
      (r.indexable = true → dropLast = true → TailOk bs r.outs) := by
  refine ⟨?_, rel_batch_partial h hbs⟩
  intro H hi hdl
  subst hdl
  obtain ⟨hl, hg⟩ := h.idx hi
  have hno := h.noIdxErr hi
  -- ask for the first position past the end: the walk goes through the dropped tail
  have hq := (H.idx hi).2 ((r.outs.length / bs : Nat) : Int)
  have hc : ¬ (r.outs.length / bs * bs < r.outs.length ∧
      (true = true → (r.outs.length / bs + 1) * bs ≤ r.outs.length)) := fun hc =>
    Nat.not_le_of_lt (Nat.lt_div_mul_add hbs) (Nat.succ_mul .. ▸ hc.2 rfl)
  have hnn : ¬ (((r.outs.length / bs : Nat) : Int) < 0) := Int.not_lt.2 (Int.natCast_nonneg _)
  simp only [batchDS, hnn, if_false] at hq
  rw [batch_getNat hbs true hg hno, batch_outAt hbs, if_neg hc, if_neg hc] at hq
  cases hm : (r.outs.drop (r.outs.length / bs * bs)).mapM id with
  | ok vs => exact mapM_id_ok _ vs hm
  | error e =>
    rw [hm] at hq
    cases hq
    exact absurd rfl (hno _ (List.mem_of_mem_drop (mapM_id_error _ _ hm)))

/-! ### the counterexample to the unconditional statement -/

def failOn3 : Val → Res Val
  | .int 3 => .error .valueError
  | v => .ok v

theorem failOn3_noIdx (v : Val) : failOn3 v ≠ .error .indexError := by
  unfold failOn3
  split <;> intro h <;> cases h

/-- `new([1,2,3]).map(f).batch(2, drop_last=True)` with `f(3)` raising `ValueError`:
    the input refines its reference, `bs ≥ 1`, but the batched datasets are not related, because
    `ds[1]` raises `ValueError` (the probe of `input[2]`) while the reference `[[1,2]][1]` raises
    `IndexError`. -/
theorem rel_batch_counterexample :
    ∃ (d : DS) (r : RefDS) (bs : Nat) (dropLast : Bool),
      Rel d r ∧ 1 ≤ bs ∧ ¬ Rel (batchDS bs dropLast d) (Ref.batch bs dropLast r) := by
  refine ⟨mapDS failOn3 (listSrc [.int 1, .int 2, .int 3]),
    Ref.map failOn3 (Ref.listSrc [.int 1, .int 2, .int 3]), 2, true,
    rel_map failOn3 failOn3_noIdx (rel_listSrc _), by omega, ?_⟩
  intro H
  have h1 := (H.idx rfl).2 1
  have h2 : (batchDS 2 true (mapDS failOn3 (listSrc [.int 1, .int 2, .int 3]))).getInt 1
      = .error .valueError := by rfl
  have h3 : outAt (Ref.batch 2 true (Ref.map failOn3 (Ref.listSrc [.int 1, .int 2, .int 3]))).outs 1
      = .error .indexError := by rfl
  rw [h2, h3] at h1
  cases h1

end LazyDs
