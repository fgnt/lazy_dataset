/-
  List facts that core lacks, chiefly about `List.mapM` in `Except`: `mapM_eq_ok_iff` turns a successful
  `mapM` into an equation between two `List.map`s, so that its length, positions, members and `cons` are
  facts about `List.map`.  CORE LEAN ONLY.
-/
namespace List

theorem length_eq_of_getElem?_eq_none_iff {α} {l : List α} {N : Nat}
    (h : ∀ k, l[k]? = none ↔ N ≤ k) : l.length = N :=
  Nat.le_antisymm (getElem?_eq_none_iff.1 ((h N).2 (Nat.le_refl N)))
    ((h l.length).1 (getElem?_eq_none_iff.2 (Nat.le_refl _)))

section getElem
variable {α : Type}

theorem getElem?_append_singleton {l : List α} {a x : α} {w : Nat}
    (h : (l ++ [a])[w]? = some x) : l[w]? = some x ∨ (w = l.length ∧ x = a) := by
  rcases Nat.lt_trichotomy w l.length with hlt | rfl | hgt
  · rw [List.getElem?_append_left hlt] at h; exact .inl h
  · rw [List.getElem?_append_right (Nat.le_refl _), Nat.sub_self] at h
    exact .inr ⟨rfl, (Option.some.inj h).symm⟩
  · rw [List.getElem?_eq_none (by rw [List.length_append]; exact hgt)] at h; cases h

theorem getElem?_set_some_cases {l : List α} {d d' : Nat} {a x : α}
    (h : (l.set d a)[d']? = some x) : (d = d' ∧ x = a) ∨ (d ≠ d' ∧ l[d']? = some x) := by
  rw [List.getElem?_set] at h
  by_cases e : d = d'
  · rw [if_pos e] at h
    by_cases e' : d < l.length
    · rw [if_pos e'] at h; exact .inl ⟨e, by cases h; rfl⟩
    · rw [if_neg e'] at h; cases h
  · rw [if_neg e] at h; exact .inr ⟨e, h⟩

theorem lt_of_getElem?_eq_some {l : List α} {x : α} {w : Nat} (h : l[w]? = some x) :
    w < l.length :=
  (getElem?_eq_some_iff.1 h).1

theorem getD_set_self {l : List α} {j : Nat} (x : α) {d : α} (h : j < l.length) :
    (l.set j x).getD j d = x := by
  simp [h]

theorem getD_set_ne {l : List α} {j k : Nat} (x : α) {d : α} (h : j ≠ k) :
    (l.set j x).getD k d = l.getD k d := by
  simp [h]

theorem getD_set_succ_ge (l : List Nat) (j k : Nat) :
    l.getD k 0 ≤ (l.set j (l.getD j 0 + 1)).getD k 0 := by
  by_cases e : j = k
  · subst e
    by_cases h : j < l.length
    · rw [List.getD_set_self _ h]; exact Nat.le_succ _
    · rw [List.set_eq_of_length_le (Nat.not_lt.1 h)]; exact Nat.le_refl _
  · rw [List.getD_set_ne _ e]; exact Nat.le_refl _

end getElem

section mapM
variable {ε α β : Type}

theorem mapM_eq_ok_iff {f : α → Except ε β} {l : List α} {out : List β} :
    l.mapM f = .ok out ↔ l.map f = out.map .ok := by
  induction l generalizing out with
  | nil => cases out <;> simp [pure, Except.pure]
  | cons a l ih =>
    rw [List.mapM_cons, List.map_cons]
    cases hfa : f a with
    | error e => cases out <;> simp [bind, Except.bind]
    | ok b =>
      cases out with
      | nil => cases l.mapM f <;> simp [bind, Except.bind, pure, Except.pure]
      | cons b' bs =>
        rw [List.map_cons, List.cons.injEq, ← ih]
        cases l.mapM f <;> simp [bind, Except.bind, pure, Except.pure]

theorem mapM_cons_eq_ok_iff {f : α → Except ε β} {a : α} {l : List α} {b : β} {bs : List β} :
    (a :: l).mapM f = .ok (b :: bs) ↔ f a = .ok b ∧ l.mapM f = .ok bs := by
  rw [mapM_eq_ok_iff, mapM_eq_ok_iff, List.map_cons, List.map_cons, List.cons.injEq]

theorem mapM_ok_length {f : α → Except ε β} {l : List α} {out : List β} (h : l.mapM f = .ok out) :
    out.length = l.length := by
  rw [← List.length_map (f := Except.ok), ← mapM_eq_ok_iff.1 h, List.length_map]

theorem mapM_ok_getElem? {f : α → Except ε β} {l : List α} {out : List β} (h : l.mapM f = .ok out)
    (t : Nat) : l[t]?.map f = out[t]?.map .ok := by
  rw [← List.getElem?_map, ← List.getElem?_map, mapM_eq_ok_iff.1 h]

theorem mapM_ok_of_getElem? {f : α → Except ε β} {l : List α} {out : List β} (h : l.mapM f = .ok out)
    {t : Nat} {a : α} (ha : l[t]? = some a) : ∃ b, out[t]? = some b ∧ f a = .ok b := by
  have := mapM_ok_getElem? h t
  rw [ha] at this
  obtain ⟨b, hb, hfb⟩ := Option.map_eq_some_iff.1 this.symm
  exact ⟨b, hb, hfb.symm⟩

theorem mapM_ok_getElem {f : α → Except ε β} {l : List α} {out : List β} (h : l.mapM f = .ok out)
    {t : Nat} (ht : t < l.length) (ht' : t < out.length) : f l[t] = .ok out[t] := by
  have := mapM_ok_getElem? h t
  rw [List.getElem?_eq_getElem ht, List.getElem?_eq_getElem ht'] at this
  exact Option.some.inj this

theorem mapM_ok_of_mem {f : α → Except ε β} {l : List α} {out : List β} (h : l.mapM f = .ok out)
    {a : α} (ha : a ∈ l) : ∃ b ∈ out, f a = .ok b := by
  obtain ⟨t, ht⟩ := List.getElem?_of_mem ha
  obtain ⟨b, hb, hfb⟩ := mapM_ok_of_getElem? h ht
  exact ⟨b, List.mem_of_getElem? hb, hfb⟩

theorem mapM_ok_of_forall {f : α → Except ε β} {g : α → β} {l : List α}
    (h : ∀ a ∈ l, f a = .ok (g a)) : l.mapM f = .ok (l.map g) := by
  rw [mapM_eq_ok_iff, List.map_map]
  exact List.map_congr_left h

theorem mapM_ok_eq_map {f : α → Except ε β} {g : α → β} {l : List α} {out : List β}
    (h : l.mapM f = .ok out) (hg : ∀ a ∈ l, ∀ b, f a = .ok b → g a = b) : out = l.map g :=
  Except.ok.inj <| h.symm.trans <| mapM_ok_of_forall fun a ha => by
    obtain ⟨b, _, hb⟩ := mapM_ok_of_mem h ha
    rw [hb, hg a ha b hb]

theorem mapM_ok_imp {ε' : Type} {f : α → Except ε β} {g : α → Except ε' β} {l : List α} {out : List β}
    (h : l.mapM f = .ok out) (hfg : ∀ a ∈ l, ∀ b, f a = .ok b → g a = .ok b) : l.mapM g = .ok out := by
  induction l generalizing out with
  | nil => cases h; rfl
  | cons a l ih =>
    cases out with
    | nil => rw [mapM_eq_ok_iff] at h; cases h
    | cons b bs =>
      rw [mapM_cons_eq_ok_iff] at h ⊢
      exact ⟨hfg a (by simp) b h.1, ih h.2 fun a' ha' => hfg a' (by simp [ha'])⟩

theorem mapM_error_mem {f : α → Except ε β} {l : List α} {e : ε} (h : l.mapM f = .error e) :
    ∃ a ∈ l, f a = .error e := by
  induction l with
  | nil => cases h
  | cons a l ih =>
    rw [List.mapM_cons] at h
    cases hfa : f a with
    | error e' => rw [hfa] at h; cases h; exact ⟨a, by simp, hfa⟩
    | ok b =>
      rw [hfa] at h
      cases hl : l.mapM f with
      | ok bs => rw [hl] at h; cases h
      | error e' =>
        rw [hl] at h; cases h
        obtain ⟨a', ha', hf'⟩ := ih hl
        exact ⟨a', by simp [ha'], hf'⟩

/-- in any lawful monad (`Except` in the dataset stages, `Option` in the heap model) -/
theorem mapM_congr_left {m : Type → Type} [Monad m] [LawfulMonad m] {f g : α → m β} {l : List α}
    (h : ∀ a ∈ l, f a = g a) : l.mapM f = l.mapM g := by
  induction l with
  | nil => rfl
  | cons a l ih =>
    rw [List.mapM_cons, List.mapM_cons, h a List.mem_cons_self, ih fun a' ha' => h a' (List.mem_cons_of_mem _ ha')]

theorem mapM_map_result {γ : Type} (g : α → Except ε β) (h : β → γ) (l : List α) :
    l.mapM (fun a => (g a).map h) = (l.mapM g).map (List.map h) := by
  induction l with
  | nil => rfl
  | cons a l ih =>
    simp only [List.mapM_cons, ih]
    cases g a with
    | error e => rfl
    | ok b => cases l.mapM g <;> rfl

/-- the hypothesis has the form that `mapM_eq_ok_iff` gives -/
theorem eq_filterMap_of_map_ok {f : α → Except ε β} {l : List α} {d : List β}
    (h : l.map f = d.map Except.ok) : d = l.filterMap (fun x => (f x).toOption) := by
  have := congrArg (List.filterMap Except.toOption) h
  rw [List.filterMap_map, List.filterMap_map] at this
  exact (this.trans (List.filterMap_some ..)).symm

end mapM

/-! ### `List.mapM` in `Option` -/

theorem mapM_opt_cons_eq_some {α β} {f : α → Option β} {x : α} {xs : List α} {ys : List β} :
    (x :: xs).mapM f = some ys ↔ ∃ y ys', f x = some y ∧ xs.mapM f = some ys' ∧ ys = y :: ys' := by
  rw [List.mapM_cons]
  cases f x with
  | none => simp
  | some y => cases List.mapM f xs <;> simp [eq_comm]

theorem mapM_opt_mono {α β} {f g : α → Option β} {xs : List α} {ys : List β}
    (hfg : ∀ x ∈ xs, ∀ y, f x = some y → g x = some y) (h : xs.mapM f = some ys) :
    xs.mapM g = some ys := by
  induction xs generalizing ys with
  | nil => exact h
  | cons x xs ih =>
    rw [mapM_opt_cons_eq_some] at *
    obtain ⟨y, ys', h1, h2, h3⟩ := h
    exact ⟨y, ys', hfg x (by simp) y h1, ih (fun z hz => hfg z (by simp [hz])) h2, h3⟩

end List
