import LazyDs.Conc.Stp
/-
  The functions of the queue and of the program points in which the invariant and the theorems about
  `single_thread_prefetch` are stated, each with its value at every constructor.  CORE LEAN ONLY.
-/

namespace LazyDs.Stp

variable {α ε : Type}

/-! ## Queue helpers -/

/-- the non-sentinel entries of the queue, in order -/
def items : List (QItem α) → List α
  | [] => []
  | .item x :: r => x :: items r
  | .sentinel :: r => items r

def hasS : List (QItem α) → Bool
  | [] => false
  | .item _ :: r => hasS r
  | .sentinel :: _ => true

/-- the sentinel occurs at most once, and only as the last entry -/
def okQ : List (QItem α) → Bool
  | [] => true
  | .item _ :: r => okQ r
  | .sentinel :: r => r.isEmpty

@[simp] theorem items_nil : items ([] : List (QItem α)) = [] := rfl
@[simp] theorem items_cons_item (x : α) (r) : items (.item x :: r) = x :: items r := rfl
@[simp] theorem items_cons_sentinel (r : List (QItem α)) : items (.sentinel :: r) = items r := rfl
@[simp] theorem hasS_nil : hasS ([] : List (QItem α)) = false := rfl
@[simp] theorem hasS_cons_item (x : α) (r) : hasS (.item x :: r) = hasS r := rfl
@[simp] theorem hasS_cons_sentinel (r : List (QItem α)) : hasS (.sentinel :: r) = true := rfl
@[simp] theorem okQ_nil : okQ ([] : List (QItem α)) = true := rfl
@[simp] theorem okQ_cons_item (x : α) (r) : okQ (.item x :: r) = okQ r := rfl
@[simp] theorem okQ_cons_sentinel (r : List (QItem α)) : (okQ (.sentinel :: r) = true) ↔ r = [] := by
  simp [okQ]

@[simp] theorem items_append_item (q : List (QItem α)) (x : α) :
    items (q ++ [.item x]) = items q ++ [x] := by
  induction q with
  | nil => rfl
  | cons a r ih => cases a <;> simp_all

@[simp] theorem items_append_sentinel (q : List (QItem α)) :
    items (q ++ [.sentinel]) = items q := by
  induction q with
  | nil => rfl
  | cons a r ih => cases a <;> simp_all

theorem items_length_le (q : List (QItem α)) : (items q).length ≤ q.length := by
  induction q with
  | nil => simp
  | cons a r ih => cases a <;> simp <;> omega

@[simp] theorem hasS_append_item (q : List (QItem α)) (x : α) :
    hasS (q ++ [.item x]) = hasS q := by
  induction q with
  | nil => rfl
  | cons a r ih => cases a <;> simp_all

@[simp] theorem hasS_append_sentinel (q : List (QItem α)) :
    hasS (q ++ [.sentinel]) = true := by
  induction q with
  | nil => rfl
  | cons a r ih => cases a <;> simp_all

theorem okQ_append (q : List (QItem α)) (y : QItem α) (h : hasS q = false) :
    okQ (q ++ [y]) = true := by
  induction q with
  | nil => cases y <;> simp
  | cons a r ih => cases a <;> simp_all

/-! ## Program-point helpers -/

/-- the item the consumer holds (between `get()` and `yield`) -/
def handC : CPc α → List α
  | .cHave x => [x]
  | _ => []

/-- the item the worker holds (pulled from the source, not yet in the queue) -/
def handW : WPc α → List α
  | .wChk1 x => [x]
  | .wPut x => [x]
  | _ => []

abbrev hand_c (s : St α ε) : List α := handC s.c
abbrev hand_w (s : St α ε) : List α := handW s.w

/-- the `put`s the worker may still perform once `shutdown` is set (every test of the flag then
    leaves the loop) -/
def rp : WPc α → Nat
  | .wPut _ => 1
  | .wPutS => 1
  | _ => 0

/-- likewise the pulls from the source -/
def nx : WPc α → Nat
  | .wNext => 1
  | _ => 0

/-- consumer program points after `shutdown = True` -/
def cShut : CPc α → Bool
  | .cDrain | .cJoin | .cAfter | .cDone => true
  | _ => false

/-- consumer program points after `thread.join()` -/
def cPost : CPc α → Bool
  | .cAfter | .cDone => true
  | _ => false

/-- worker program points after the `for` loop ended -/
def wPast : WPc α → Bool
  | .wFin | .wPutS | .wDone => true
  | _ => false

-- One `rfl` lemma per constructor, not `attribute [simp] handC handW rp nx …`: `handW s.w` with an
-- unknown `s.w` would unfold to a `match`, on which the `omega` calls of `Inv.next` fail.
@[simp] theorem handC_cGet : handC (.cGet : CPc α) = [] := rfl
@[simp] theorem handC_cHave (x : α) : handC (.cHave x) = [x] := rfl
@[simp] theorem handC_cYield : handC (.cYield : CPc α) = [] := rfl
@[simp] theorem handC_cFin : handC (.cFin : CPc α) = [] := rfl
@[simp] theorem handC_cDrain : handC (.cDrain : CPc α) = [] := rfl
@[simp] theorem handC_cJoin : handC (.cJoin : CPc α) = [] := rfl
@[simp] theorem handC_cAfter : handC (.cAfter : CPc α) = [] := rfl
@[simp] theorem handC_cDone : handC (.cDone : CPc α) = [] := rfl
@[simp] theorem handW_w0 : handW (.w0 : WPc α) = [] := rfl
@[simp] theorem handW_wNext : handW (.wNext : WPc α) = [] := rfl
@[simp] theorem handW_wChk1 (x : α) : handW (.wChk1 x) = [x] := rfl
@[simp] theorem handW_wPut (x : α) : handW (.wPut x) = [x] := rfl
@[simp] theorem handW_wChk2 : handW (.wChk2 : WPc α) = [] := rfl
@[simp] theorem handW_wFin : handW (.wFin : WPc α) = [] := rfl
@[simp] theorem handW_wPutS : handW (.wPutS : WPc α) = [] := rfl
@[simp] theorem handW_wDone : handW (.wDone : WPc α) = [] := rfl

@[simp] theorem rp_w0 : rp (.w0 : WPc α) = 0 := rfl
@[simp] theorem rp_wNext : rp (.wNext : WPc α) = 0 := rfl
@[simp] theorem rp_wChk1 (x : α) : rp (.wChk1 x : WPc α) = 0 := rfl
@[simp] theorem rp_wPut (x : α) : rp (.wPut x : WPc α) = 1 := rfl
@[simp] theorem rp_wChk2 : rp (.wChk2 : WPc α) = 0 := rfl
@[simp] theorem rp_wFin : rp (.wFin : WPc α) = 0 := rfl
@[simp] theorem rp_wPutS : rp (.wPutS : WPc α) = 1 := rfl
@[simp] theorem rp_wDone : rp (.wDone : WPc α) = 0 := rfl
@[simp] theorem nx_w0 : nx (.w0 : WPc α) = 0 := rfl
@[simp] theorem nx_wNext : nx (.wNext : WPc α) = 1 := rfl
@[simp] theorem nx_wChk1 (x : α) : nx (.wChk1 x : WPc α) = 0 := rfl
@[simp] theorem nx_wPut (x : α) : nx (.wPut x : WPc α) = 0 := rfl
@[simp] theorem nx_wChk2 : nx (.wChk2 : WPc α) = 0 := rfl
@[simp] theorem nx_wFin : nx (.wFin : WPc α) = 0 := rfl
@[simp] theorem nx_wPutS : nx (.wPutS : WPc α) = 0 := rfl
@[simp] theorem nx_wDone : nx (.wDone : WPc α) = 0 := rfl
@[simp] theorem wPast_w0 : wPast (.w0 : WPc α) = false := rfl
@[simp] theorem wPast_wNext : wPast (.wNext : WPc α) = false := rfl
@[simp] theorem wPast_wChk1 (x : α) : wPast (.wChk1 x : WPc α) = false := rfl
@[simp] theorem wPast_wPut (x : α) : wPast (.wPut x : WPc α) = false := rfl
@[simp] theorem wPast_wChk2 : wPast (.wChk2 : WPc α) = false := rfl
@[simp] theorem wPast_wFin : wPast (.wFin : WPc α) = true := rfl
@[simp] theorem wPast_wPutS : wPast (.wPutS : WPc α) = true := rfl
@[simp] theorem wPast_wDone : wPast (.wDone : WPc α) = true := rfl
@[simp] theorem cShut_cGet : cShut (.cGet : CPc α) = false := rfl
@[simp] theorem cShut_cHave (x : α) : cShut (.cHave x : CPc α) = false := rfl
@[simp] theorem cShut_cYield : cShut (.cYield : CPc α) = false := rfl
@[simp] theorem cShut_cFin : cShut (.cFin : CPc α) = false := rfl
@[simp] theorem cShut_cDrain : cShut (.cDrain : CPc α) = true := rfl
@[simp] theorem cShut_cJoin : cShut (.cJoin : CPc α) = true := rfl
@[simp] theorem cShut_cAfter : cShut (.cAfter : CPc α) = true := rfl
@[simp] theorem cShut_cDone : cShut (.cDone : CPc α) = true := rfl
@[simp] theorem cPost_cGet : cPost (.cGet : CPc α) = false := rfl
@[simp] theorem cPost_cHave (x : α) : cPost (.cHave x : CPc α) = false := rfl
@[simp] theorem cPost_cYield : cPost (.cYield : CPc α) = false := rfl
@[simp] theorem cPost_cFin : cPost (.cFin : CPc α) = false := rfl
@[simp] theorem cPost_cDrain : cPost (.cDrain : CPc α) = false := rfl
@[simp] theorem cPost_cJoin : cPost (.cJoin : CPc α) = false := rfl
@[simp] theorem cPost_cAfter : cPost (.cAfter : CPc α) = true := rfl
@[simp] theorem cPost_cDone : cPost (.cDone : CPc α) = true := rfl

/-- what the generator has raised into the consumer, by program point -/
def raisedAt (c : CPc α) (closed : Bool) (ex : Option ε) : Option ε :=
  match c with
  | .cDone => bif closed then none else ex
  | _ => none

@[simp] theorem raisedAt_cGet (cl : Bool) (ex : Option ε) : raisedAt (.cGet : CPc α) cl ex = none := rfl
@[simp] theorem raisedAt_cHave (x : α) (cl : Bool) (ex : Option ε) : raisedAt (.cHave x) cl ex = none := rfl
@[simp] theorem raisedAt_cYield (cl : Bool) (ex : Option ε) : raisedAt (.cYield : CPc α) cl ex = none := rfl
@[simp] theorem raisedAt_cFin (cl : Bool) (ex : Option ε) : raisedAt (.cFin : CPc α) cl ex = none := rfl
@[simp] theorem raisedAt_cDrain (cl : Bool) (ex : Option ε) : raisedAt (.cDrain : CPc α) cl ex = none := rfl
@[simp] theorem raisedAt_cJoin (cl : Bool) (ex : Option ε) : raisedAt (.cJoin : CPc α) cl ex = none := rfl
@[simp] theorem raisedAt_cAfter (cl : Bool) (ex : Option ε) : raisedAt (.cAfter : CPc α) cl ex = none := rfl
@[simp] theorem raisedAt_cDone (cl : Bool) (ex : Option ε) :
    raisedAt (.cDone : CPc α) cl ex = bif cl then none else ex := rfl

/-- the consumer is at `thread.join()` -/
def cJoinB : CPc α → Bool
  | .cJoin => true
  | _ => false

/-- the consumer has left the `get()`/`yield` loop -/
def cLeft : CPc α → Bool
  | .cFin | .cDrain | .cJoin | .cAfter | .cDone => true
  | _ => false

@[simp] theorem cJoinB_cGet : cJoinB (.cGet : CPc α) = false := rfl
@[simp] theorem cJoinB_cHave (x : α) : cJoinB (.cHave x : CPc α) = false := rfl
@[simp] theorem cJoinB_cYield : cJoinB (.cYield : CPc α) = false := rfl
@[simp] theorem cJoinB_cFin : cJoinB (.cFin : CPc α) = false := rfl
@[simp] theorem cJoinB_cDrain : cJoinB (.cDrain : CPc α) = false := rfl
@[simp] theorem cJoinB_cJoin : cJoinB (.cJoin : CPc α) = true := rfl
@[simp] theorem cJoinB_cAfter : cJoinB (.cAfter : CPc α) = false := rfl
@[simp] theorem cJoinB_cDone : cJoinB (.cDone : CPc α) = false := rfl
@[simp] theorem cLeft_cGet : cLeft (.cGet : CPc α) = false := rfl
@[simp] theorem cLeft_cHave (x : α) : cLeft (.cHave x : CPc α) = false := rfl
@[simp] theorem cLeft_cYield : cLeft (.cYield : CPc α) = false := rfl
@[simp] theorem cLeft_cFin : cLeft (.cFin : CPc α) = true := rfl
@[simp] theorem cLeft_cDrain : cLeft (.cDrain : CPc α) = true := rfl
@[simp] theorem cLeft_cJoin : cLeft (.cJoin : CPc α) = true := rfl
@[simp] theorem cLeft_cAfter : cLeft (.cAfter : CPc α) = true := rfl
@[simp] theorem cLeft_cDone : cLeft (.cDone : CPc α) = true := rfl

theorem handC_length_le (c : CPc α) : (handC c).length ≤ 1 := by cases c <;> simp
theorem handW_length_le (w : WPc α) : (handW w).length ≤ 1 := by cases w <;> simp
theorem rp_le (w : WPc α) : rp w ≤ 1 := by cases w <;> simp
theorem nx_handW (w : WPc α) : nx w + (handW w).length ≤ 1 := by cases w <;> simp

end LazyDs.Stp
