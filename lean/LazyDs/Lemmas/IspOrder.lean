import LazyDs.Model.Stage
import LazyDs.Lemmas.StreamAlg
/-
  The order table of `IntersperseDataset` and what its iterator yields along it.

  `intersperseOrder lens` is a permutation of `orderEntries lens`, and consistent: the entries of one
  dataset occur in the order `j = 0, 1, 2, …` (`order_block`: each dataset's block is a sorted sublist
  of the unsorted table, and the sort is stable).  Along such a table `intersperseRun` yields
  `Stream.ofOuts` of "value `e.j` of stream `e.d`" entry by entry (`intersperseRun_eq_ofOuts`).
-/
namespace LazyDs

/-- the entries of dataset `d`, which has `n` examples -/
def ordBlock (n d : Nat) : List OrdEntry :=
  (List.range n).map (fun j => (⟨j + 1, n, d, j⟩ : OrdEntry))

/-- `orderEntries` with the dataset numbering starting at `k` -/
def entriesFrom (k : Nat) (lens : List Nat) : List OrdEntry :=
  ((lens.zipIdx k).map (fun (n, d) => ordBlock n d)).flatten

theorem orderEntries_eq (lens : List Nat) : orderEntries lens = entriesFrom 0 lens := rfl

theorem entriesFrom_nil (k : Nat) : entriesFrom k [] = [] := rfl

theorem entriesFrom_cons (k n : Nat) (lens : List Nat) :
    entriesFrom k (n :: lens) = ordBlock n k ++ entriesFrom (k + 1) lens := by
  simp [entriesFrom]

theorem length_ordBlock (n d : Nat) : (ordBlock n d).length = n := by simp [ordBlock]

theorem map_j_ordBlock (n d : Nat) : (ordBlock n d).map (·.j) = List.range n := by
  simp [ordBlock, Function.comp_def]

theorem mem_ordBlock {n d : Nat} {e : OrdEntry} :
    e ∈ ordBlock n d ↔ e.den = n ∧ e.d = d ∧ e.j < n ∧ e.num = e.j + 1 := by
  simp only [ordBlock, List.mem_map, List.mem_range]
  constructor
  · rintro ⟨j, hj, rfl⟩
    exact ⟨rfl, rfl, hj, rfl⟩
  · rintro ⟨h1, h2, h3, h4⟩
    refine ⟨e.j, h3, ?_⟩
    cases e
    simp_all

theorem length_entriesFrom (k : Nat) (lens : List Nat) : (entriesFrom k lens).length = lens.sum := by
  induction lens generalizing k with
  | nil => rfl
  | cons n lens ih => rw [entriesFrom_cons, List.length_append, length_ordBlock, ih, List.sum_cons]

theorem mem_entriesFrom {k : Nat} {lens : List Nat} {e : OrdEntry} :
    e ∈ entriesFrom k lens ↔
      k ≤ e.d ∧ lens[e.d - k]? = some e.den ∧ e.j < e.den ∧ e.num = e.j + 1 := by
  simp only [entriesFrom, List.mem_flatten, List.mem_map, Prod.exists]
  constructor
  · rintro ⟨_, ⟨n, d, hm, rfl⟩, he⟩
    obtain ⟨rfl, rfl, h3, h4⟩ := mem_ordBlock.1 he
    rw [List.mk_mem_zipIdx_iff_le_and_getElem?_sub] at hm
    exact ⟨hm.1, hm.2, h3, h4⟩
  · rintro ⟨h1, h2, h3, h4⟩
    exact ⟨_, ⟨e.den, e.d, List.mk_mem_zipIdx_iff_le_and_getElem?_sub.2 ⟨h1, h2⟩, rfl⟩,
      mem_ordBlock.2 ⟨rfl, rfl, h3, h4⟩⟩

theorem mem_orderEntries {lens : List Nat} {e : OrdEntry} :
    e ∈ orderEntries lens ↔ lens[e.d]? = some e.den ∧ e.j < e.den ∧ e.num = e.j + 1 := by
  rw [orderEntries_eq, mem_entriesFrom]
  simp

theorem filter_ordBlock_self (n d : Nat) : (ordBlock n d).filter (fun e => e.d == d) = ordBlock n d := by
  rw [List.filter_eq_self]
  intro e he
  simp [(mem_ordBlock.1 he).2.1]

theorem filter_ordBlock_ne (n d d' : Nat) (h : d ≠ d') : (ordBlock n d).filter (fun e => e.d == d') = [] := by
  rw [List.filter_eq_nil_iff]
  intro e he
  simp [(mem_ordBlock.1 he).2.1, h]

theorem filter_entriesFrom_lt (k d : Nat) (lens : List Nat) (h : d < k) :
    (entriesFrom k lens).filter (fun e => e.d == d) = [] := by
  rw [List.filter_eq_nil_iff]
  intro e he
  have := (mem_entriesFrom.1 he).1
  simp only [beq_iff_eq]
  omega

theorem filter_entriesFrom (k d n : Nat) (lens : List Nat) (hk : k ≤ d) (hn : lens[d - k]? = some n) :
    (entriesFrom k lens).filter (fun e => e.d == d) = ordBlock n d := by
  induction lens generalizing k with
  | nil => cases hn
  | cons m lens ih =>
    rw [entriesFrom_cons, List.filter_append]
    rcases Nat.eq_or_lt_of_le hk with rfl | hlt
    · rw [Nat.sub_self] at hn
      cases hn
      rw [filter_ordBlock_self, filter_entriesFrom_lt _ _ _ (Nat.lt_succ_self k), List.append_nil]
    · rw [← Nat.succ_pred_eq_of_pos (Nat.sub_pos_of_lt hlt), List.getElem?_cons_succ,
        Nat.pred_eq_sub_one, Nat.sub_sub] at hn
      rw [filter_ordBlock_ne _ _ _ (Nat.ne_of_lt hlt), ih (k + 1) hlt hn, List.nil_append]

theorem filter_orderEntries (lens : List Nat) (d n : Nat) (hn : lens[d]? = some n) :
    (orderEntries lens).filter (fun e => e.d == d) = ordBlock n d :=
  filter_entriesFrom 0 d n lens (Nat.zero_le _) (by simpa using hn)

/-! ### the comparison of entries -/

theorem OrdEntry.le_iff (a b : OrdEntry) :
    a.le b = true ↔
      a.num * b.den < b.num * a.den ∨
      (a.num * b.den = b.num * a.den ∧ (a.d < b.d ∨ (a.d = b.d ∧ a.j ≤ b.j))) := by
  unfold OrdEntry.le
  simp only [Bool.if_true_left, Bool.if_false_left, Bool.or_eq_true, Bool.and_eq_true, decide_eq_true_eq,
    Bool.not_eq_true', decide_eq_false_iff_not]
  omega

theorem frac_le_trans {an ad bn bd cn cd : Nat} (hb : 0 < bd)
    (h1 : an * bd ≤ bn * ad) (h2 : bn * cd ≤ cn * bd) : an * cd ≤ cn * ad :=
  Nat.le_of_mul_le_mul_right (calc
    an * cd * bd = an * bd * cd := Nat.mul_right_comm ..
    _ ≤ bn * ad * cd := Nat.mul_le_mul_right cd h1
    _ = bn * cd * ad := Nat.mul_right_comm ..
    _ ≤ cn * bd * ad := Nat.mul_le_mul_right ad h2
    _ = cn * ad * bd := Nat.mul_right_comm ..) hb

theorem frac_lt_le_trans {an ad bn bd cn cd : Nat} (hc : 0 < cd)
    (h1 : an * bd < bn * ad) (h2 : bn * cd ≤ cn * bd) : an * cd < cn * ad :=
  Nat.lt_of_not_le fun h => Nat.not_le_of_lt h1 (frac_le_trans hc h2 h)

theorem frac_le_lt_trans {an ad bn bd cn cd : Nat} (ha : 0 < ad)
    (h1 : an * bd ≤ bn * ad) (h2 : bn * cd < cn * bd) : an * cd < cn * ad :=
  Nat.lt_of_not_le fun h => Nat.not_le_of_lt h2 (frac_le_trans ha h h1)

theorem OrdEntry.le_trans_pos {a b c : OrdEntry} (ha : 0 < a.den) (hb : 0 < b.den) (hc : 0 < c.den)
    (h1 : a.le b = true) (h2 : b.le c = true) : a.le c = true := by
  refine (OrdEntry.le_iff a c).2 ?_
  rcases (OrdEntry.le_iff a b).1 h1 with h1 | ⟨h1, h1'⟩
  · rcases (OrdEntry.le_iff b c).1 h2 with h2 | ⟨h2, _⟩
    · exact .inl (frac_lt_le_trans hc h1 (Nat.le_of_lt h2))
    · exact .inl (frac_lt_le_trans hc h1 (Nat.le_of_eq h2))
  · rcases (OrdEntry.le_iff b c).1 h2 with h2 | ⟨h2, h2'⟩
    · exact .inl (frac_le_lt_trans ha (Nat.le_of_eq h1) h2)
    · refine .inr ⟨Nat.le_antisymm (frac_le_trans hb (Nat.le_of_eq h1) (Nat.le_of_eq h2))
        (frac_le_trans hb (Nat.le_of_eq h2.symm) (Nat.le_of_eq h1.symm)), ?_⟩
      -- equal fractions: the pairs `(d, j)` are compared lexicographically
      omega

theorem OrdEntry.le_total (a b : OrdEntry) : (a.le b || b.le a) = true := by
  rw [Bool.or_eq_true, OrdEntry.le_iff, OrdEntry.le_iff]
  omega

/-- replace a zero denominator (never present in an order table) by one -/
def OrdEntry.fix (e : OrdEntry) : OrdEntry := if e.den = 0 then { e with den := 1 } else e

theorem OrdEntry.fix_pos (e : OrdEntry) : 0 < e.fix.den := by
  unfold OrdEntry.fix
  split
  · simp
  · omega

theorem OrdEntry.fix_of_pos {e : OrdEntry} (h : 0 < e.den) : e.fix = e := by
  unfold OrdEntry.fix
  rw [if_neg (by omega)]

theorem pos_of_mem_orderEntries {lens : List Nat} {e : OrdEntry} (h : e ∈ orderEntries lens) : 0 < e.den := by
  have := (mem_orderEntries.1 h).2.1
  omega

/-! ### `intersperseOrder`: permutation, length, entries, sortedness -/

theorem order_perm (lens : List Nat) : (intersperseOrder lens).Perm (orderEntries lens) :=
  List.mergeSort_perm _ _

theorem order_length (lens : List Nat) : (intersperseOrder lens).length = lens.sum := by
  rw [(order_perm lens).length_eq, orderEntries_eq, length_entriesFrom]

theorem mem_order {lens : List Nat} {e : OrdEntry} :
    e ∈ intersperseOrder lens ↔ lens[e.d]? = some e.den ∧ e.j < e.den ∧ e.num = e.j + 1 := by
  rw [(order_perm lens).mem_iff, mem_orderEntries]

theorem order_entries (lens : List Nat) (e : OrdEntry) (he : e ∈ intersperseOrder lens) :
    ∃ h : e.d < lens.length, e.j < lens[e.d] ∧ e.den = lens[e.d] ∧ e.num = e.j + 1 := by
  obtain ⟨h1, h2, h3⟩ := mem_order.1 he
  obtain ⟨h, h1'⟩ := List.getElem?_eq_some_iff.1 h1
  exact ⟨h, by omega, h1'.symm, h3⟩

/-- The comparison with zero denominators replaced is transitive on all entries, which is what the
    facts about `List.mergeSort` ask for; on the entries of an order table it is `OrdEntry.le` itself,
    so sorting by it gives the same table. -/
theorem intersperseOrder_eq_fix (lens : List Nat) :
    intersperseOrder lens = (orderEntries lens).mergeSort fun a b => OrdEntry.le a.fix b.fix := by
  have := List.map_mergeSort (r := OrdEntry.le) (s := fun a b => OrdEntry.le a.fix b.fix) (f := id)
    (l := orderEntries lens) fun a ha b hb => by
      rw [id, id, OrdEntry.fix_of_pos (pos_of_mem_orderEntries ha),
        OrdEntry.fix_of_pos (pos_of_mem_orderEntries hb)]
  rwa [List.map_id, List.map_id] at this

theorem ordBlock_pairwise (n d : Nat) :
    (ordBlock n d).Pairwise fun a b => OrdEntry.le a.fix b.fix = true := by
  rcases Nat.eq_zero_or_pos n with rfl | h0
  · exact List.Pairwise.nil
  · refine List.pairwise_map.2 (List.pairwise_lt_range.imp fun {i j} hij => ?_)
    rw [OrdEntry.fix_of_pos h0, OrdEntry.fix_of_pos h0, OrdEntry.le_iff]
    exact .inl (Nat.mul_lt_mul_of_pos_right (Nat.succ_lt_succ hij) h0)

theorem ordBlock_sublist {lens : List Nat} {d n : Nat} (hn : lens[d]? = some n) :
    (ordBlock n d).Sublist (orderEntries lens) :=
  List.sublist_flatten_of_mem (List.mem_map.2 ⟨(n, d), List.mk_mem_zipIdx_iff_getElem?.2 hn, rfl⟩)

/-- Consistency of the order table.  The block is a sorted sublist of the unsorted table, hence (the sort
    is stable) a sublist of the sorted one, which has no other entry with `d`. -/
theorem order_block (lens : List Nat) (d n : Nat) (hn : lens[d]? = some n) :
    (intersperseOrder lens).filter (fun e => e.d == d) = ordBlock n d := by
  have hsub : (ordBlock n d).Sublist (intersperseOrder lens) := by
    rw [intersperseOrder_eq_fix]
    exact List.sublist_mergeSort (le := fun (a b : OrdEntry) => OrdEntry.le a.fix b.fix)
      (fun (a b c : OrdEntry) h1 h2 => OrdEntry.le_trans_pos a.fix_pos b.fix_pos c.fix_pos h1 h2)
      (fun (a b : OrdEntry) => OrdEntry.le_total a.fix b.fix) (ordBlock_pairwise n d) (ordBlock_sublist hn)
  have hsubf := hsub.filter fun e => e.d == d
  rw [filter_ordBlock_self] at hsubf
  refine (hsubf.eq_of_length ?_).symm
  rw [← filter_orderEntries lens d n hn]
  exact ((order_perm lens).filter _).length_eq.symm

theorem filter_decide_eq_beq (order : List OrdEntry) (d : Nat) :
    order.filter (fun e => decide (e.d = d)) = order.filter (fun e => e.d == d) := by
  apply List.filter_congr
  intro e _
  rw [Bool.eq_iff_iff]
  simp

theorem order_consistent (lens : List Nat) (d : Nat) (h : d < lens.length) :
    ((intersperseOrder lens).filter (·.d = d)).map (·.j) = List.range lens[d] := by
  rw [filter_decide_eq_beq, order_block lens d lens[d] (List.getElem?_eq_getElem h), map_j_ordBlock]

/-! ### consistency, as used by the iterator: position in the table ↦ position in the part -/

abbrev ordCount (pre : List OrdEntry) (d : Nat) : Nat := pre.countP (fun e => e.d == d)

/-- when the iterator reaches the entry `e` at table position `t`, `next(iterators[e.d])` produces
    example `e.j` of part `e.d` -/
def OrderOK (order : List OrdEntry) : Prop :=
  ∀ t e, order[t]? = some e → ordCount (order.take t) e.d = e.j

theorem filter_take_index {α} (p : α → Bool) : ∀ (l : List α) (t : Nat) (e : α), l[t]? = some e → p e = true →
    (l.filter p)[(l.take t).countP p]? = some e
  | x :: xs, 0, e, h, hp => by
    simp only [List.getElem?_cons_zero, Option.some.injEq] at h
    subst h
    simp [hp]
  | x :: xs, t + 1, e, h, hp => by
    have ih := filter_take_index p xs t e h hp
    simp only [List.take_succ_cons, List.countP_cons, List.filter_cons]
    by_cases hx : p x = true
    · simp only [hx, if_true, List.getElem?_cons_succ]
      exact ih
    · simp only [hx, Bool.false_eq_true, if_false, Nat.add_zero]
      exact ih

theorem orderOK_of_blocks (order : List OrdEntry)
    (h : ∀ e ∈ order, order.filter (fun x => x.d == e.d) = ordBlock e.den e.d) : OrderOK order := by
  intro t e ht
  have hmem : e ∈ order := List.mem_of_getElem? ht
  have h1 := filter_take_index (fun x => x.d == e.d) order t e ht (by simp)
  rw [h e hmem] at h1
  simp only [ordBlock, List.getElem?_map, Option.map_eq_some_iff] at h1
  obtain ⟨i, hi, hie⟩ := h1
  obtain ⟨hlt, hi'⟩ := List.getElem?_eq_some_iff.1 hi
  rw [List.getElem_range] at hi'
  rw [← hie]
  exact hi'

theorem order_ok (lens : List Nat) : OrderOK (intersperseOrder lens) := by
  apply orderOK_of_blocks
  intro e he
  exact order_block lens e.d e.den (mem_order.1 he).1

/-! ### what `intersperseRun` yields -/

/-- the `j`-th `next` on a generator that is run to its end: value number `j`, or the way it ended
    (a `StopIteration` leaking out of a generator is a `RuntimeError`, PEP 479) -/
def nextAt {α} (s : Stream α) (j : Nat) : Res α :=
  match s.vals[j]? with
  | some v => .ok v
  | none => .error (s.err.getD .runtimeError)

/-- what the iterator does for the table entry `e` when stream `e.d` has been advanced `e.j` times -/
def fetch {α} (ss : List (Stream α)) (e : OrdEntry) : Res α :=
  match ss[e.d]? with
  | some s => nextAt s e.j
  | none => .error .indexError

theorem fetch_eq_ok {α} {ss : List (Stream α)} {e : OrdEntry} {v : α} :
    fetch ss e = .ok v ↔ ∃ s, ss[e.d]? = some s ∧ s.vals[e.j]? = some v := by
  unfold fetch nextAt
  cases ss[e.d]? with
  | none => simp
  | some s =>
    simp only [Option.some.injEq, exists_eq_left']
    cases s.vals[e.j]? <;> simp

theorem fetch_toOption {α} (ss : List (Stream α)) (e : OrdEntry) :
    (fetch ss e).toOption = ss[e.d]?.bind fun s => s.vals[e.j]? := by
  unfold fetch nextAt
  cases ss[e.d]? with
  | none => rfl
  | some s =>
    simp only [Option.bind_some]
    cases s.vals[e.j]? <;> rfl

/-- the iterator state agrees with the table: when entry number `t` is reached, iterator `e.d` has
    been advanced `e.j` times (`OrderOK` is the case `pos = 0`) -/
def RunOK (pos : List Nat) (order : List OrdEntry) : Prop :=
  ∀ t e, order[t]? = some e → ∀ p, pos[e.d]? = some p → p + ordCount (order.take t) e.d = e.j

theorem RunOK.tail {pos : List Nat} {e : OrdEntry} {rest : List OrdEntry} (h : RunOK pos (e :: rest))
    {p : Nat} (hp : pos[e.d]? = some p) : RunOK (pos.set e.d (p + 1)) rest := by
  intro t e' he' p' hp'
  have := h (t + 1) e' he'
  rw [List.take_succ_cons, ordCount, List.countP_cons] at this
  rw [List.getElem?_set] at hp'
  by_cases hd : e.d = e'.d
  · -- the entry just consumed belongs to the same dataset: one more in the state, one less to count
    rw [if_pos hd, if_pos (List.getElem?_eq_some_iff.1 hp).1] at hp'
    cases hp'
    have := this p (hd ▸ hp)
    rw [if_pos (beq_iff_eq.2 hd)] at this
    rw [Nat.add_right_comm]; exact this
  · rw [if_neg hd] at hp'
    have := this p' hp'
    rwa [if_neg (fun hb => hd (beq_iff_eq.1 hb)), Nat.add_zero] at this

theorem intersperseRun_eq_ofOuts {α} (ss : List (Stream α)) : ∀ (order : List OrdEntry) (pos : List Nat),
    pos.length = ss.length → RunOK pos order →
    intersperseRun ss order pos = .ofOuts (order.map (fetch ss))
  | [], _, _, _ => rfl
  | e :: rest, pos, hlen, hok => by
    unfold intersperseRun
    rw [List.map_cons]
    cases hs : ss[e.d]? with
    | none => simp only [fetch, hs]; rfl
    | some s =>
      have hd : e.d < pos.length := hlen ▸ (List.getElem?_eq_some_iff.1 hs).1
      have hp : pos[e.d]? = some pos[e.d] := List.getElem?_eq_getElem hd
      have hj : pos[e.d] = e.j := by simpa [ordCount] using hok 0 e rfl _ hp
      rw [hp, hj]
      cases hv : s.vals[e.j]? with
      | none => simp only [fetch, nextAt, hs, hv]; cases s.err <;> rfl
      | some v =>
        have ih := intersperseRun_eq_ofOuts ss rest (pos.set e.d (e.j + 1))
          (by rw [List.length_set]; exact hlen) (hj ▸ hok.tail hp)
        simp only [fetch, nextAt, hs, hv, ih]; rfl

theorem runOK_zeros {α} (l : List α) {order : List OrdEntry} (h : OrderOK order) :
    RunOK (l.map fun _ => 0) order := by
  intro t e he p hp
  rw [List.getElem?_map] at hp
  obtain ⟨_, _, rfl⟩ := Option.map_eq_some_iff.1 hp
  rw [Nat.zero_add]
  exact h t e he

theorem intersperseRun_ok {α} (ss : List (Stream α)) {order : List OrdEntry} (h : OrderOK order) :
    intersperseRun ss order (ss.map fun _ => 0) = .ofOuts (order.map (fetch ss)) :=
  intersperseRun_eq_ofOuts ss order _ (by simp) (runOK_zeros ss h)

theorem intersperseRun_prefix' {α} (ss : List (Stream α)) (order : List OrdEntry) (hok : OrderOK order)
    (t : Nat) (h : t < (intersperseRun ss order (ss.map fun _ => 0)).vals.length) :
    ∃ (ho : t < order.length) (hd : order[t].d < ss.length) (hj : order[t].j < ss[order[t].d].vals.length),
      (intersperseRun ss order (ss.map fun _ => 0)).vals[t] = ss[order[t].d].vals[order[t].j] := by
  have hpre := (ofOuts_spec (order.map (fetch ss))).1
  rw [← intersperseRun_ok ss hok] at hpre
  have := List.prefix_iff_getElem?.1 hpre t (by simpa using h)
  rw [List.getElem?_map, List.getElem_map] at this
  obtain ⟨e, he, hf⟩ := Option.map_eq_some_iff.1 this
  obtain ⟨ho, rfl⟩ := List.getElem?_eq_some_iff.1 he
  obtain ⟨s, hs, hv⟩ := fetch_eq_ok.1 hf
  obtain ⟨hd, rfl⟩ := List.getElem?_eq_some_iff.1 hs
  obtain ⟨hj, hv⟩ := List.getElem?_eq_some_iff.1 hv
  exact ⟨ho, hd, hj, hv.symm⟩

theorem intersperseRun_eq {α} (lens : List Nat) (ss : List (Stream α)) (hlen : ss.length = lens.length)
    (hs : ∀ (i : Nat) (h : i < ss.length), lens[i]'(hlen ▸ h) ≤ ss[i].vals.length) :
    (intersperseRun ss (intersperseOrder lens) (ss.map fun _ => 0)).err = none ∧
    (intersperseRun ss (intersperseOrder lens) (ss.map fun _ => 0)).vals.map some
      = (intersperseOrder lens).map (fun e => (ss[e.d]?).bind (fun s => s.vals[e.j]?)) := by
  have hrun := intersperseRun_ok ss (order_ok lens)
  have herr : (Stream.ofOuts ((intersperseOrder lens).map (fetch ss))).err = none := by
    rw [ofOuts_err_none_iff]
    intro o ho
    obtain ⟨e, he, rfl⟩ := List.mem_map.1 ho
    obtain ⟨hd, hj, _, _⟩ := order_entries lens e he
    have hd' : e.d < ss.length := hlen ▸ hd
    cases hf : fetch ss e with
    | ok v => exact ⟨v, rfl⟩
    | error er =>
      have := fetch_eq_ok.2 ⟨ss[e.d], List.getElem?_eq_getElem hd',
        List.getElem?_eq_getElem (Nat.lt_of_lt_of_le hj (hs e.d hd'))⟩
      rw [hf] at this; cases this
  rw [hrun]
  refine ⟨herr, ?_⟩
  have := congrArg (List.map Except.toOption) ((ofOuts_spec _).2.1 herr)
  rw [List.map_map, List.map_map] at this
  exact this.trans (List.map_congr_left fun e _ => fetch_toOption ss e)

end LazyDs
