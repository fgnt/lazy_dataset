import LazyDs.Model.Shuffle
import LazyDs.Lemmas.PySliceLemmas
import LazyDs.Lemmas.Machine
/-
  What property C12 rests on (the shuffles; model: `LazyDs.Model.Shuffle`).

  * `select` / `applyPerm`: `select` is the function `sliceList` of `PySliceLemmas`, whose lemmas
    it shares; selection by a permutation of the positions is a permutation.
  * `localLoop`: under the validity hypotheses on the oracle the buffer holds at most `bs - 1`
    examples between iterations, `emitted ++ buffer` is a permutation of `buffer₀ ++ consumed`,
    and the size of the buffer left is known; independently of the oracle, an emitted example
    is never more than `bs - 1` positions early.  The loop lemmas are stated for `bs = b + 1`,
    which turns every `bs - 1` into `b`.
  * the `ReShuffleDataset` machine: the shared array stays a permutation of `range n`; while no
    `start`/`freeze` happens the array is constant and an iterator walks it front to back.
-/
namespace LazyDs.Shuffle

/-! ### `select` -/

theorem select_eq_sliceList {α} (l : List α) (idx : List Nat) : select l idx = sliceList l idx := rfl

@[simp] theorem select_nil_idx {α} (l : List α) : select l [] = [] := rfl

theorem select_cons_of_lt {α} {l : List α} {i : Nat} (h : i < l.length) (idx : List Nat) :
    select l (i :: idx) = l[i] :: select l idx := sliceList_cons_of_lt idx h

theorem select_append_idx {α} (l : List α) (i₁ i₂ : List Nat) :
    select l (i₁ ++ i₂) = select l i₁ ++ select l i₂ := sliceList_append l i₁ i₂

theorem mem_select {α} {l : List α} {idx : List Nat} {x : α} :
    x ∈ select l idx ↔ ∃ i ∈ idx, l[i]? = some x := List.mem_filterMap

theorem mem_of_mem_select {α} {l : List α} {idx : List Nat} {x : α} (h : x ∈ select l idx) :
    x ∈ l := by
  obtain ⟨i, _, hi⟩ := mem_select.1 h
  exact List.mem_of_getElem? hi

theorem select_eq_map {α} [Inhabited α] {l : List α} {idx : List Nat}
    (h : ∀ i ∈ idx, i < l.length) : select l idx = idx.map (fun i => l[i]!) := sliceList_eq_map h

theorem select_length_le {α} (l : List α) (idx : List Nat) :
    (select l idx).length ≤ idx.length := List.length_filterMap_le _ _

theorem select_perm_idx {α} (l : List α) {i₁ i₂ : List Nat} (h : i₁.Perm i₂) :
    (select l i₁).Perm (select l i₂) := List.Perm.filterMap _ h

theorem select_perm {α} {l : List α} {π : List Nat} (h : π.Perm (List.range l.length)) :
    (select l π).Perm l :=
  (select_perm_idx l h).trans (.of_eq (sliceList_range l))

theorem select_nodup {α} {l : List α} {idx : List Nat} (hidx : idx.Nodup) (hl : l.Nodup) :
    (select l idx).Nodup :=
  List.Pairwise.filterMap (S := (· ≠ ·)) _ (fun _ _ hne _ hb _ hb' e =>
    hne ((List.getElem?_inj (List.getElem?_eq_some_iff.1 hb).1 hl).1 (hb.trans (e ▸ hb'.symm)))) hidx

/-! ### `applyPerm` -/

theorem applyPerm_perm {α} {π : List Nat} {a : List α} (h : π.Perm (List.range a.length)) :
    (applyPerm π a).Perm a := select_perm h

theorem mem_of_mem_applyPerm {α} {π : List Nat} {a : List α} {x : α} (h : x ∈ applyPerm π a) :
    x ∈ a := mem_of_mem_select h

theorem applyPerm_range_perm {n : Nat} {π a : List Nat} (hπ : π.Perm (List.range n))
    (ha : a.Perm (List.range n)) : (applyPerm π a).Perm (List.range n) := by
  have hlen : a.length = n := ha.length_eq.trans List.length_range
  exact (applyPerm_perm (by rwa [hlen])).trans ha

/-! ### `localLoop` / `localShuffle` -/

theorem perm_cons_eraseIdx {α} {l : List α} {c : Nat} {y : α} (h : l[c]? = some y) :
    (y :: l.eraseIdx c).Perm l := by
  induction l generalizing c with
  | nil => cases h
  | cons a l ih =>
    cases c with
    | zero => cases h; exact .refl _
    | succ c => exact (List.Perm.swap a y _).trans ((ih h).cons a)

theorem localLoop_nil {α} (bs : Nat) (buf : List α) (cs : List Nat) :
    localLoop bs [] buf cs = ([], buf) := rfl

theorem localLoop_fill {α} {b : Nat} {x : α} {xs buf : List α} {cs : List Nat}
    (h : buf.length < b) :
    localLoop (b + 1) (x :: xs) buf cs = localLoop (b + 1) xs (buf ++ [x]) cs :=
  if_neg (by rw [List.length_append]; exact Nat.not_le.2 (Nat.succ_lt_succ h))

theorem localLoop_pop {α} {b : Nat} {x y : α} {xs buf : List α} {c : Nat} {cs : List Nat}
    (h : b ≤ buf.length) (hy : (buf ++ [x])[c]? = some y) :
    localLoop (b + 1) (x :: xs) buf (c :: cs) =
      (y :: (localLoop (b + 1) xs ((buf ++ [x]).eraseIdx c) cs).1,
        (localLoop (b + 1) xs ((buf ++ [x]).eraseIdx c) cs).2) := by
  rw [localLoop.eq_def]
  simp only [hy]
  exact if_pos (by rw [List.length_append]; exact Nat.succ_le_succ h)

/-- Loop invariant under a valid oracle; `hbuf` is re-established at every recursive call.  The
    number of emitted examples is not part of it: it follows (`C12_local_loop_inv`) from
    emitted + left = consumed. -/
theorem localLoop_perm_rest {α} (b : Nat) (xs buf : List α) (cs : List Nat)
    (hbuf : buf.length ≤ b) (hcs : ∀ c ∈ cs, c < b + 1)
    (hlen : buf.length + xs.length ≤ cs.length + b) :
    ((localLoop (b + 1) xs buf cs).1 ++ (localLoop (b + 1) xs buf cs).2).Perm (buf ++ xs) ∧
    (localLoop (b + 1) xs buf cs).2.length = min (buf.length + xs.length) b := by
  induction xs generalizing buf cs with
  | nil => rw [localLoop_nil, List.append_nil]; exact ⟨.refl _, (Nat.min_eq_left hbuf).symm⟩
  | cons x xs ih =>
    have hB : (buf ++ [x]).length = buf.length + 1 := List.length_append
    have e : buf.length + (x :: xs).length = (buf ++ [x]).length + xs.length := by
      rw [hB, Nat.add_right_comm]; rfl
    rw [e] at hlen ⊢
    rw [show buf ++ x :: xs = buf ++ [x] ++ xs from (List.append_assoc buf [x] xs).symm]
    by_cases h : buf.length < b
    · rw [localLoop_fill h]
      exact ih (buf ++ [x]) cs (hB ▸ h) hcs hlen
    · -- the buffer is full, `b + 1` examples: the choice `c` is a position of it; `b` stay
      have hb : buf.length = b := Nat.le_antisymm hbuf (Nat.not_lt.1 h)
      rw [hB, hb] at hlen
      match cs with
      | [] => exact absurd hlen (by rw [List.length_nil]; omega)
      | c :: cs =>
        have hcl : c < (buf ++ [x]).length := by rw [hB, hb]; exact hcs c (List.mem_cons_self ..)
        have hy := List.getElem?_eq_getElem hcl
        have hel : ((buf ++ [x]).eraseIdx c).length = b := by
          rw [List.length_eraseIdx_of_lt hcl, hB, hb]; rfl
        have := ih ((buf ++ [x]).eraseIdx c) cs (Nat.le_of_eq hel)
          (fun d hd => hcs d (List.mem_cons_of_mem _ hd))
          (by rw [hel]; rw [List.length_cons] at hlen; omega)
        rw [localLoop_pop (Nat.le_of_eq hb.symm) hy]
        refine ⟨(this.1.cons _).trans ((perm_cons_eraseIdx hy).append_right xs), this.2.trans ?_⟩
        rw [hel, hB, hb, Nat.min_eq_right (Nat.le_add_right ..), Nat.min_eq_right (by omega)]

theorem localLoop_noChoice {α} {b : Nat} {x : α} {xs buf : List α} (h : b ≤ buf.length) :
    localLoop (b + 1) (x :: xs) buf [] = ([], buf ++ [x]) :=
  if_pos (by rw [List.length_append]; exact Nat.succ_le_succ h)

theorem localLoop_badChoice {α} {b : Nat} {x : α} {xs buf : List α} {c : Nat} {cs : List Nat}
    (h : b ≤ buf.length) (hy : (buf ++ [x])[c]? = none) :
    localLoop (b + 1) (x :: xs) buf (c :: cs) = ([], buf ++ [x]) := by
  rw [localLoop.eq_def]
  simp only [hy]
  exact if_pos (by rw [List.length_append]; exact Nat.succ_le_succ h)

/-- Displacement invariant, any oracle.  `f` is the source position, `e` the number of
    examples emitted so far, so `e + buf.length` have been consumed: `buf` holds positions below
    that, `xs[i]` has position `≤ e + buf.length + i`.  The example emitted at global output
    position `e + j` has source position at most `e + j + b`, and what is left in the buffer can
    still be emitted at any later position. -/
theorem localLoop_displacement {α} (f : α → Nat) (b : Nat)
    (xs buf : List α) (cs : List Nat) (e : Nat)
    (hbuf : buf.length ≤ b) (hbufk : ∀ y ∈ buf, f y < e + buf.length)
    (hxs : ∀ i y, xs[i]? = some y → f y ≤ e + buf.length + i) :
    (∀ j y, (localLoop (b + 1) xs buf cs).1[j]? = some y → f y ≤ e + j + b) ∧
    (∀ y ∈ (localLoop (b + 1) xs buf cs).2, f y ≤ e + (localLoop (b + 1) xs buf cs).1.length + b) := by
  induction xs generalizing buf cs e with
  | nil =>
    rw [localLoop_nil]
    exact ⟨nofun, fun y hy =>
      Nat.le_of_lt (Nat.lt_of_lt_of_le (hbufk y hy) (Nat.add_le_add_left hbuf e))⟩
  | cons x xs ih =>
    have hB : (buf ++ [x]).length = buf.length + 1 := List.length_append
    have hmem : ∀ y ∈ buf ++ [x], f y < e + (buf.length + 1) := fun y hy => by
      rcases List.mem_append.1 hy with h | h
      · exact Nat.lt_succ_of_lt (hbufk y h)
      · cases List.mem_singleton.1 h; exact Nat.lt_succ_of_le (hxs 0 x rfl)
    have hxs' : ∀ i y, xs[i]? = some y → f y ≤ e + (buf.length + 1) + i := fun i y hi =>
      Nat.le_trans (hxs (i + 1) y hi) (Nat.le_of_eq (Nat.succ_add (e + buf.length) i).symm)
    by_cases h : buf.length < b
    · rw [localLoop_fill h]
      exact ih (buf ++ [x]) cs e (hB ▸ h) (hB ▸ hmem) (hB ▸ hxs')
    · have hb : b ≤ buf.length := Nat.not_lt.1 h
      -- whatever is in the buffer now may be emitted at once
      have hstuck : ∀ y ∈ buf ++ [x], f y ≤ e + 0 + b := fun y hy =>
        Nat.le_trans (Nat.le_of_lt_succ (hmem y hy)) (Nat.add_le_add_left hbuf e)
      match cs with
      | [] => rw [localLoop_noChoice hb]; exact ⟨nofun, hstuck⟩
      | c :: cs =>
        cases hy : (buf ++ [x])[c]? with
        | none => rw [localLoop_badChoice hb hy]; exact ⟨nofun, hstuck⟩
        | some y =>
          rw [localLoop_pop hb hy]
          have hel : ((buf ++ [x]).eraseIdx c).length = buf.length := by
            rw [List.length_eraseIdx_of_lt (List.getElem?_eq_some_iff.1 hy).1, hB]; rfl
          have := ih ((buf ++ [x]).eraseIdx c) cs (e + 1) (hel ▸ hbuf)
            (fun z hz => by
              rw [hel, Nat.add_right_comm]; exact hmem z (List.mem_of_mem_eraseIdx hz))
            (fun i z hi => by rw [hel, Nat.add_right_comm e 1]; exact hxs' i z hi)
          have shift (m : Nat) : e + 1 + m + b = e + (m + 1) + b := by
            rw [Nat.add_right_comm e 1 m]; rfl
          refine ⟨fun j z hj => ?_, fun z hz => shift _ ▸ this.2 z hz⟩
          cases j with
          | zero => cases hj; exact hstuck _ (List.mem_of_getElem? hy)
          | succ j => exact shift j ▸ this.1 j z hj

theorem localShuffle_eq {α} (bs : Nat) (input : List α) (cs fp : List Nat) :
    localShuffle bs input cs fp =
      (localLoop bs input [] cs).1 ++ applyPerm fp (localLoop bs input [] cs).2 := rfl

/-! ### the `ReShuffleDataset` machine -/

theorem rrun_nil (s : RState) : rrun s [] = (s, []) := rfl

theorem rrun_cons (s : RState) (op : ROp) (ops : List ROp) :
    rrun s (op :: ops) =
      ((rrun (rstep s op).1 ops).1, (rstep s op).2 :: (rrun (rstep s op).1 ops).2) := rfl

theorem rrun_isRun : IsRun rstep rrun := ⟨rrun_nil, rrun_cons⟩

theorem rstep_next_cases (s : RState) (j : Nat) :
    (s.pos[j]? = none ∧ rstep s (.next j) = (s, .bad)) ∨
    (∃ p, s.pos[j]? = some p ∧ s.arr[p]? = none ∧ rstep s (.next j) = (s, .stop)) ∨
    (∃ p v, s.pos[j]? = some p ∧ s.arr[p]? = some v ∧
      rstep s (.next j) = ({ s with pos := s.pos.set j (p + 1) }, .val v)) := by
  cases hp : s.pos[j]? with
  | none => exact .inl ⟨rfl, by simp only [rstep, hp]⟩
  | some p =>
    cases hv : s.arr[p]? with
    | none => exact .inr (.inl ⟨p, rfl, hv, by simp only [rstep, hp, hv]⟩)
    | some v => exact .inr (.inr ⟨p, v, rfl, hv, by simp only [rstep, hp, hv]⟩)

theorem rstep_next_arr (s : RState) (j : Nat) : (rstep s (.next j)).1.arr = s.arr := by
  rcases rstep_next_cases s j with ⟨_, e⟩ | ⟨_, _, _, e⟩ | ⟨_, _, _, _, e⟩ <;> rw [e]

theorem rstep_arr_perm {n : Nat} {s : RState} {op : ROp} (hs : s.arr.Perm (List.range n))
    (hop : ∀ π, op = .start π ∨ op = .freeze π → π.Perm (List.range n)) :
    (rstep s op).1.arr.Perm (List.range n) := by
  cases op with
  | start π => exact applyPerm_range_perm (hop π (.inl rfl)) hs
  | freeze π => exact applyPerm_range_perm (hop π (.inr rfl)) hs
  | next j => rw [rstep_next_arr]; exact hs

theorem rstep_frozen {s : RState} {op : ROp} {a : List Nat} (h : (rstep s op).2 = .frozen a) :
    (rstep s op).1.arr = a := by
  cases op with
  | start π => cases h
  | freeze π => exact ROut.frozen.inj h
  | next j =>
    rcases rstep_next_cases s j with ⟨_, e⟩ | ⟨_, _, _, e⟩ | ⟨_, _, _, _, e⟩ <;> rw [e] at h <;> cases h

theorem rrun_frozen_perm {n : Nat} {s : RState} {ops : List ROp} (hs : s.arr.Perm (List.range n))
    (hops : ∀ op ∈ ops, ∀ π, op = .start π ∨ op = .freeze π → π.Perm (List.range n))
    {a : List Nat} (ha : ROut.frozen a ∈ (rrun s ops).2) : a.Perm (List.range n) := by
  obtain ⟨k, hk⟩ := List.getElem?_of_mem ha
  have hlt : k < ops.length := rrun_isRun.length s ops ▸ (List.getElem?_eq_some_iff.1 hk).1
  exact rrun_isRun.out (P := fun s => s.arr.Perm (List.range n))
    (Q := fun _ o => ∀ a, o = .frozen a → a.Perm (List.range n))
    (fun _ op hop h => ⟨rstep_arr_perm h (hops op hop),
      fun _ ho => rstep_frozen ho ▸ rstep_arr_perm h (hops op hop)⟩)
    hs (List.getElem?_eq_getElem hlt) hk a rfl

/-- what iterator `it` receives from one step -/
def got (it : Nat) : ROp → ROut → Option Nat
  | .next j, .val v => if j = it then some v else none
  | _, _ => none

theorem valuesOf_cons (it : Nat) (op : ROp) (ops : List ROp) (o : ROut) (outs : List ROut) :
    valuesOf it (op :: ops) (o :: outs) = (got it op o).toList ++ valuesOf it ops outs := by
  cases op with
  | next j =>
    cases o with
    | val v =>
      show (if j = it then _ else _) = (if j = it then some v else none).toList ++ _
      split <;> rfl
    | _ => rfl
  | _ => cases o <;> rfl

theorem valuesOf_append (it : Nat) {a : List ROp} {o₁ : List ROut} (h : a.length = o₁.length)
    (b : List ROp) (o₂ : List ROut) :
    valuesOf it (a ++ b) (o₁ ++ o₂) = valuesOf it a o₁ ++ valuesOf it b o₂ := by
  induction a generalizing o₁ with
  | nil => cases o₁ with
    | nil => rfl
    | cons _ _ => cases h
  | cons op a ih => cases o₁ with
    | nil => cases h
    | cons o o₁ =>
      rw [List.cons_append, List.cons_append, valuesOf_cons, valuesOf_cons, ih (Nat.succ.inj h),
        List.append_assoc]

theorem rstep_pos_length_le (s : RState) (op : ROp) :
    s.pos.length ≤ (rstep s op).1.pos.length := by
  cases op with
  | start π => exact List.length_append ▸ Nat.le_add_right ..
  | freeze π => exact Nat.le_refl _
  | next j =>
    rcases rstep_next_cases s j with ⟨_, e⟩ | ⟨_, _, _, e⟩ | ⟨_, _, _, _, e⟩ <;> rw [e]
    · exact Nat.le_refl _
    · exact Nat.le_refl _
    · exact Nat.le_of_eq List.length_set.symm

theorem rrun_pos_length_le (s : RState) (ops : List ROp) :
    s.pos.length ≤ (rrun s ops).1.pos.length :=
  rrun_isRun.inv
    (fun t op _ h => Nat.le_trans h (rstep_pos_length_le t op)) (Nat.le_refl _)

theorem rstep_not_started {s : RState} {it : Nat} (h : s.pos.length ≤ it) (op : ROp) :
    got it op (rstep s op).2 = none ∧ (op = .next it → (rstep s op).2 = .bad) := by
  cases op with
  | start π => exact ⟨rfl, nofun⟩
  | freeze π => exact ⟨rfl, nofun⟩
  | next j =>
    have hj : ∀ {p}, s.pos[j]? = some p → j ≠ it := fun hp e => by
      rw [e, List.getElem?_eq_none h] at hp; cases hp
    rcases rstep_next_cases s j with ⟨_, e⟩ | ⟨_, hp, _, e⟩ | ⟨_, _, hp, _, e⟩ <;> rw [e]
    · exact ⟨rfl, fun _ => rfl⟩
    · exact ⟨rfl, fun e => absurd (ROp.next.inj e) (hj hp)⟩
    · exact ⟨if_neg (hj hp), fun e => absurd (ROp.next.inj e) (hj hp)⟩

theorem rrun_not_started (s : RState) (ops : List ROp) {it : Nat}
    (h : (rrun s ops).1.pos.length ≤ it) :
    valuesOf it ops (rrun s ops).2 = [] ∧
      ∀ k : Nat, ops[k]? = some (ROp.next it) → (rrun s ops).2[k]? = some ROut.bad := by
  induction ops generalizing s with
  | nil => exact ⟨rfl, nofun⟩
  | cons op ops ih =>
    rw [rrun_cons] at h ⊢
    have h0 := rstep_not_started
      (Nat.le_trans (rstep_pos_length_le s op) (Nat.le_trans (rrun_pos_length_le _ _) h)) op
    refine ⟨by rw [valuesOf_cons, h0.1, (ih _ h).1]; rfl, fun k hk => ?_⟩
    cases k with
    | zero => exact congrArg some (h0.2 (Option.some.inj hk))
    | succ k => exact (ih _ h).2 k hk

theorem rstep_next_watch {s : RState} {it p : Nat} (hp : s.pos[it]? = some p) (j : Nat) :
    ∃ p', (rstep s (.next j)).1.pos[it]? = some p' ∧ p ≤ p' ∧
      s.arr.take p ++ (got it (.next j) (rstep s (.next j)).2).toList = s.arr.take p' ∧
      (j = it → (rstep s (.next j)).2 = .stop → s.arr.length ≤ p') := by
  rcases rstep_next_cases s j with ⟨_, e⟩ | ⟨q, hq, hv, e⟩ | ⟨q, v, hq, hv, e⟩ <;> rw [e]
  · exact ⟨p, hp, Nat.le_refl _, List.append_nil _, fun _ h => nomatch h⟩
  · refine ⟨p, hp, Nat.le_refl _, List.append_nil _, fun e _ => ?_⟩
    rw [e, hp] at hq; cases hq
    exact List.getElem?_eq_none_iff.1 hv
  · by_cases e : j = it
    · subst e; rw [hp] at hq; cases hq
      refine ⟨p + 1, ?_, Nat.le_succ _, ?_, fun _ h => nomatch h⟩
      · exact List.getElem?_set_self (List.getElem?_eq_some_iff.1 hp).1
      · rw [List.take_add_one, hv]; exact congrArg _ (congrArg _ (if_pos rfl))
    · refine ⟨p, ?_, Nat.le_refl _, ?_, fun h => absurd h e⟩
      · exact (List.getElem?_set_ne e).trans hp
      · exact (congrArg (_ ++ Option.toList ·) (if_neg e)).trans (List.append_nil _)

/-- While only `next` operations happen, what iterator `it` (standing at `p`) has received so far
    stays a prefix of the array; if a `next it` reported `stop`, it is the whole array. -/
theorem rrun_only_next {s : RState} {post : List ROp} {it p : Nat}
    (hpost : ∀ op ∈ post, ∃ j, op = .next j) (hp : s.pos[it]? = some p) :
    ∃ p', p ≤ p' ∧ s.arr.take p ++ valuesOf it post (rrun s post).2 = s.arr.take p' ∧
      (∀ k : Nat, post[k]? = some (ROp.next it) → (rrun s post).2[k]? = some ROut.stop →
        s.arr.length ≤ p') := by
  induction post generalizing s p with
  | nil => exact ⟨p, Nat.le_refl _, List.append_nil _, nofun⟩
  | cons op post ih =>
    obtain ⟨j, rfl⟩ := hpost op (List.mem_cons_self ..)
    obtain ⟨p₁, hp₁, hle₁, ht₁, hs₁⟩ := rstep_next_watch hp j
    obtain ⟨p', hle, ht, hs⟩ := ih (fun o ho => hpost o (List.mem_cons_of_mem _ ho)) hp₁
    rw [rstep_next_arr] at ht hs
    refine ⟨p', Nat.le_trans hle₁ hle, ?_, fun k hk hst => ?_⟩
    · rw [rrun_cons, valuesOf_cons, ← List.append_assoc, ht₁, ht]
    · cases k with
      | zero => exact Nat.le_trans (hs₁ (ROp.next.inj (Option.some.inj hk)) (Option.some.inj hst)) hle
      | succ k => exact hs k hk hst

theorem rrun_isolated (s : RState) {it : Nat} {pre post : List ROp} {π : List Nat}
    (hpost : ∀ op ∈ post, ∃ j, op = ROp.next j)
    (hit : (rrun s (pre ++ ROp.start π :: post)).2[pre.length]? = some (ROut.started it))
    (hstop : ∃ k : Nat, (pre ++ ROp.start π :: post)[k]? = some (ROp.next it) ∧
      (rrun s (pre ++ ROp.start π :: post)).2[k]? = some ROut.stop) :
    valuesOf it (pre ++ ROp.start π :: post) (rrun s (pre ++ ROp.start π :: post)).2 =
      applyPerm π (rrun s pre).1.arr := by
  rw [rrun_isRun.append] at hit hstop ⊢
  have ho₁ := rrun_isRun.length s pre
  have hns := rrun_not_started s pre (Nat.le_refl _)
  generalize rrun s pre = r₁ at *
  obtain ⟨s₁, o₁⟩ := r₁
  -- `it` is the iterator that `start π` creates
  rw [List.getElem?_append_right (Nat.le_of_eq ho₁), ho₁, Nat.sub_self] at hit
  obtain rfl : s₁.pos.length = it := ROut.started.inj (Option.some.inj hit)
  obtain ⟨p', -, ht, hs⟩ := rrun_only_next (s := (rstep s₁ (.start π)).1) hpost
    (List.getElem?_concat_length ..)
  rw [valuesOf_append _ ho₁.symm, hns.1]
  refine ((List.nil_append _).symm.trans ht).trans (List.take_of_length_le ?_)
  -- the `stop` was reported after the `start`: before it, a `next it` reports `bad`
  obtain ⟨k, hk, hst⟩ := hstop
  rcases Nat.lt_or_ge k pre.length with hlt | hge
  · rw [List.getElem?_append_left hlt] at hk
    rw [List.getElem?_append_left (ho₁ ▸ hlt), hns.2 k hk] at hst
    cases hst
  · obtain ⟨d, rfl⟩ := Nat.exists_eq_add_of_le hge
    rw [List.getElem?_append_right hge, Nat.add_sub_cancel_left] at hk
    rw [List.getElem?_append_right (ho₁ ▸ hge), ho₁, Nat.add_sub_cancel_left] at hst
    cases d with
    | zero => cases hk
    | succ d => exact hs d hk hst

end LazyDs.Shuffle
