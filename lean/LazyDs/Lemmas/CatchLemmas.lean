import LazyDs.Lemmas.Sound
/-
  Helper lemmas for property C14 ("exception-based filtering drops exactly the failing examples"):
  the successes `okVals` of a list of outcomes, what `build` makes of `catch(E)` in a pipeline, the
  recursive equation of the subclass relation `Err.isA`, and the three ways of filtering (lazy filter,
  eager filter, `catch(FilterException)` over a raising map) on reference data.  The statements of C14 are in `LazyDs/Props/C14.lean`.
-/
namespace LazyDs

def okVals {α} (l : List (Res α)) : List α :=
  l.filterMap (fun o => match o with | .ok v => some v | .error _ => none)

@[simp] theorem okVals_nil {α} : okVals ([] : List (Res α)) = [] := rfl

@[simp] theorem okVals_cons_ok {α} (v : α) (l : List (Res α)) : okVals (.ok v :: l) = v :: okVals l := rfl

@[simp] theorem okVals_cons_error {α} (e : Err) (l : List (Res α)) : okVals (.error e :: l) = okVals l := rfl

theorem okVals_map_ok {α} (l : List α) : okVals (l.map (Except.ok : α → Res α)) = l := by
  induction l with
  | nil => rfl
  | cons a l ih => rw [List.map_cons, okVals_cons_ok, ih]

theorem outs_eq_map_okVals {α} : ∀ (l : List (Res α)), (∀ o ∈ l, ∃ v, o = .ok v) → l = (okVals l).map .ok
  | [], _ => rfl
  | o :: l, h => by
    obtain ⟨v, rfl⟩ := h o (List.mem_cons_self ..)
    rw [okVals_cons_ok, List.map_cons, ← outs_eq_map_okVals l fun o' ho' => h o' (List.mem_cons_of_mem _ ho')]

/-- what `build` produces for `catch(E)` over an admissible pipeline, in terms of the positional
    outcomes of the reference of the WHOLE upstream pipeline -/
theorem catch_pipeline (ρ : Env) (hρ : EnvOK ρ) (E : List Err) (p : Pipeline) (ha : Adm ρ (.catch E p))
    (d : DS) (hb : build ρ (.catch E p) = .ok d) :
    ∃ r, ref ρ p = .ok r ∧ RefWF2 r ∧ r.indexable = true ∧ d.iter = catchOuts E r.outs ∧
      (∀ ks, r.keys = .ok ks → d.iterK = catchOuts E ((List.range ks.length).map (fun (j : Nat) => (do
          let k ← pyIndex ks (j : Int)
          let v ← outAt r.outs (j : Int)
          .ok (k, v) : Res (String × Val))))) := by
  obtain ⟨_, hr', hrel⟩ := build_ref ρ hρ (.catch E p) ha d hb
  obtain ⟨r, hr, hc⟩ := bind_eq_ok.1 (show (ref ρ p >>= fun r => .ok (Ref.catch_ E r)) = _ from hr')
  cases hc
  have hwf := ref_wf ρ p ha.1 r hr
  have hi := ha.2 r hr
  refine ⟨r, hr, hwf, hi, ?_, fun ks hks => ?_⟩
  · rw [hrel.iter]
    simp only [Ref.catch_, hwf.lenOuts hi]
  · rw [hrel.iterK]
    simp only [Ref.catch_, hks]

/-- The definition unrolls the walk up the class tree four times; the tree is not deeper, so it satisfies
    the recursive equation. -/
theorem isA_step (e c : Err) : e.isA c = (e == c || e.parent.any (·.isA c)) := by
  cases e <;> rfl

theorem parent_depth (e : Err) : (((e.parent.bind Err.parent).bind Err.parent).bind Err.parent) = none := by
  cases e <;> rfl

theorem isA_trans_step {a : Err}
    (ih : ∀ p, a.parent = some p → ∀ b c, p.isA b = true → b.isA c = true → p.isA c = true)
    (b c : Err) (hab : a.isA b = true) (hbc : b.isA c = true) : a.isA c = true := by
  rw [isA_step, Bool.or_eq_true] at hab
  rcases hab with hab | hab
  · rw [eq_of_beq hab]; exact hbc
  · cases hp : a.parent with
    | none => rw [hp] at hab; cases hab
    | some p =>
      rw [hp] at hab
      rw [isA_step, hp, Option.any_some, ih p hp b c hab hbc, Bool.or_true]

/-! ### three ways to filter with a total predicate -/

theorem catchOuts_filterException (q : Val → Bool) : ∀ (l : List Val),
    catchOuts [Err.filterException]
      (l.map (fun v => (if q v then .ok v else .error .filterException : Res Val))) = ⟨l.filter q, none⟩
  | [] => rfl
  | x :: l => by
    rw [List.map_cons, List.filter_cons]
    cases q x with
    | true => exact congrArg (Stream.cons x) (catchOuts_filterException q l)
    | false => exact catchOuts_filterException q l

theorem filterIdx_total {f : Val → Res Bool} {q : Val → Bool} : ∀ (vs : List Val) (i : Nat),
    (∀ v ∈ vs, f v = .ok (q v)) →
      filterIdx f vs i = .ok (((vs.zipIdx i).filter fun p => q p.1).map (·.2))
  | [], _, _ => rfl
  | v :: vs, i, h => by
    rw [filterIdx, h v List.mem_cons_self, ok_bind,
      filterIdx_total vs (i + 1) fun w hw => h w (List.mem_cons_of_mem _ hw), ok_bind, List.zipIdx_cons,
      List.filter_cons]
    cases q v <;> rfl

theorem filter_lazy_total (q : Val → Bool) (r : RefDS) (vals : List Val) (hs : r.stream = ⟨vals, none⟩) :
    (Ref.filter (fun v => .ok (q v)) r).stream = ⟨vals.filter q, none⟩ := by
  rw [Ref.filter, hs]
  exact Stream.filterM_total _ q _ fun _ _ => rfl

theorem filter_eager_total (q : Val → Bool) (r : RefDS) (hi : r.indexable = true) (hw : RefWF2 r)
    (vals : List Val) (ho : r.outs = vals.map .ok) (hs : r.stream = ⟨vals, none⟩) :
    ∃ r', Ref.mkFilterEager (fun v => .ok (q v)) r = .ok r' ∧ r'.stream = ⟨vals.filter q, none⟩ := by
  have hlen : r.len = .ok vals.length := by rw [hw.lenOuts hi, ho, List.length_map]
  have hsel : ∀ p ∈ (vals.zipIdx).filter (fun p => q p.1), vals[p.2]? = some p.1 := fun p hp =>
    List.mem_zipIdx_iff_getElem?.1 (List.mem_filter.1 hp).1
  have hfst : ((vals.zipIdx).filter fun p => q p.1).map (·.1) = vals.filter q := by
    have := List.filter_map (f := Prod.fst) (p := q) (l := vals.zipIdx)
    rw [List.zipIdx_map_fst] at this
    exact this.symm
  have hlt : ∀ j ∈ ((vals.zipIdx).filter fun p => q p.1).map (·.2), j < vals.length := by
    intro j hj
    obtain ⟨p, hp, rfl⟩ := List.mem_map.1 hj
    exact (List.getElem?_eq_some_iff.1 (hsel p hp)).1
  refine ⟨Ref.slice (((vals.zipIdx).filter fun p => q p.1).map (·.2)) r, ?_, ?_⟩
  · unfold Ref.mkFilterEager
    rw [hi, hs, filterIdx_total vals 0 fun _ _ => rfl, hlen]
    exact Ref.mkSlice_idx_ok hi hlen hlt
  · show Stream.ofOuts _ = _
    rw [ho, List.map_map, ← hfst, ← Stream.ofOuts_map_ok, List.map_map]
    refine congrArg _ (List.map_congr_left fun p hp => outAt_getElem? ?_)
    rw [List.getElem?_map, hsel p hp]
    rfl

theorem filter_catch_total (q : Val → Bool) (r : RefDS) (hi : r.indexable = true) (hw : RefWF2 r)
    (vals : List Val) (ho : r.outs = vals.map .ok) :
    (Ref.catch_ [.filterException]
      (Ref.map (fun v => if q v then .ok v else .error .filterException) r)).stream = ⟨vals.filter q, none⟩ := by
  have hlen : r.len = .ok r.outs.length := hw.lenOuts hi
  simp only [Ref.map, hlen, ho, List.map_map]
  exact catchOuts_filterException q vals

/-! ### a small environment for the concrete examples of `Props/C14.lean` -/

def c14Env : Env where
  fn := fun _ v => match v with
    | .int i => if i = 2 then .error .userB else .ok v
    | _ => .ok v
  pred := fun _ _ => .ok true

theorem c14Env_ok : EnvOK c14Env := by
  intro f v h
  cases v with
  | int i => simp only [c14Env] at h; split at h <;> cases h
  | _ => cases h

def c14Pipe (E : List Err) : Pipeline :=
  .catch E (.map .identity (.listSrc [.int 1, .int 2, .int 3]))

theorem c14Pipe_adm (E : List Err) : Adm c14Env (c14Pipe E) := by
  refine ⟨trivial, ?_⟩
  intro r hr
  cases hr
  rfl

end LazyDs
