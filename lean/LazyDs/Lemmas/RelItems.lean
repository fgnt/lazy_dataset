import LazyDs.Lemmas.Rel
/-
  Refinement lemmas (`Rel`) for the stages that walk the positions `0 … len-1` of their input
  (ItemsDataset, CacheDataset, CatchExceptionDataset, PrefetchDataset in its sequential meaning), and
  for ParMapDataset, which iterates as `map` does.
-/
namespace LazyDs

theorem irange_map {β} (n : Nat) (f : Int → β) :
    (irange n).map f = (List.range n).map (fun (j : Nat) => f (j : Int)) := by
  simp only [irange, List.map_map]
  rfl

theorem map_eq_range_map {α β} (f : α → β) (g : Nat → β) (l : List α)
    (hfg : ∀ (j : Nat) (h : j < l.length), f l[j] = g j) :
    l.map f = (List.range l.length).map g := by
  apply List.ext_getElem
  · simp
  · intro i h1 _
    simp only [List.getElem_map, List.getElem_range]
    exact hfg i (by simpa using h1)

theorem range_map_outAt (l : List (Res Val)) :
    (List.range l.length).map (fun (j : Nat) => outAt l (j : Int)) = l :=
  ((map_eq_range_map id _ l fun j h => (outAt_lt l j h).symm).symm).trans (List.map_id l)

theorem irange_map_getInt {d : DS} {r : RefDS} (h : Rel d r) (hi : r.indexable = true) :
    (irange r.outs.length).map d.getInt = r.outs := by
  obtain ⟨_, hg⟩ := h.idx hi
  rw [irange_map]
  have : (fun (j : Nat) => d.getInt (j : Int)) = fun (j : Nat) => outAt r.outs (j : Int) := by
    funext j; exact hg j
  rw [this, range_map_outAt]

/-- the cache/items pattern `input[keys.index(keys[j])]` gives the example at position `j` -/
theorem getInt_keyIndex {d : DS} {r : RefDS} (h : Rel d r) (hi : r.indexable = true)
    (ks : List String) (hk : r.keys = .ok ks) (j : Nat) (hj : j < ks.length) :
    ∃ j0 : Nat, keyIndex ks ks[j] = .ok j0 ∧ d.getInt (j0 : Int) = outAt r.outs (j : Int) := by
  obtain ⟨j0, h0, hf, heq⟩ := findIdx?_beq_of_mem (List.getElem_mem hj)
  refine ⟨j0, by rw [keyIndex, hf], ?_⟩
  rw [(h.idx hi).2 j0, ← h.getKey hi ks hk j0 h0, heq, h.getKey hi ks hk j hj]

def itemAt (ks : List String) (outs : List (Res Val)) (i : Int) : Res Val := do
  let k ← pyIndex ks i
  let v ← outAt outs i
  .ok (pairVal (k, v))

theorem itemAt_lt (ks : List String) (outs : List (Res Val)) (j : Nat) (hk : j < ks.length) (ho : j < outs.length) :
    itemAt ks outs (j : Int) = (outs[j] >>= fun v => .ok (pairVal (ks[j], v))) := by
  unfold itemAt; rw [pyIndex_lt ks j hk, outAt_lt outs j ho]; rfl

theorem outAt_itemAt (ks : List String) (outs : List (Res Val)) (n : Nat) (hk : ks.length = n)
    (ho : outs.length = n) (i : Int) :
    outAt ((List.range n).map (fun (j : Nat) => itemAt ks outs (j : Int))) i = itemAt ks outs i := by
  refine outAt_tabulate (fun i h => ?_) (fun i j h => ?_) i
  · unfold itemAt; rw [pyIndex_none hk h]; rfl
  · unfold itemAt; rw [pyIndex_some hk h, outAt_some ho h]

theorem items_outs (r : RefDS) (ks : List String) (hks : r.keys = .ok ks) :
    (Ref.items r).outs = (List.range r.outs.length).map (fun (j : Nat) => itemAt ks r.outs (j : Int)) := by
  simp only [Ref.items, hks]
  rfl

/-- The side condition: an indexable input has a key table.  Without it `items()[i]` raises what
    `keys()` raises for EVERY `i` (see `items_getInt_without_keys_counterexample`), which is not list
    indexing of any outcome list (out of range must be `IndexError`). -/
theorem rel_items {d : DS} {r : RefDS} (h : Rel d r)
    (hk : r.indexable = true → ∃ ks, r.keys = .ok ks) : Rel (itemsDS d) (Ref.items r) := by
  refine
    { indexable := h.indexable, len := h.len, keys := h.keys, iter := ?_, iterK := ?_, idx := ?_,
      noIdxErr := ?_, keysLen := ?_, getKey := ?_ }
  · simp only [itemsDS, Ref.items, Ref.mapErr, h.iterK]
  · simp only [itemsDS, Ref.items, Ref.mapErr, h.iterK]
  · intro hi
    obtain ⟨ks, hks⟩ := hk hi
    obtain ⟨hl, hg⟩ := h.idx hi
    have hkl := h.keysLen hi ks hks
    refine ⟨?_, ?_⟩
    · rw [items_outs r ks hks]
      simp only [List.length_map, List.length_range]
      exact hl
    · intro i
      rw [items_outs r ks hks, outAt_itemAt ks r.outs _ hkl rfl i]
      simp only [itemsDS]
      rw [h.keys, hks, hg i]
      rfl
  · intro hi o ho
    obtain ⟨ks, hks⟩ := hk hi
    have hkl := h.keysLen hi ks hks
    rw [items_outs r ks hks] at ho
    simp only [List.mem_map, List.mem_range] at ho
    obtain ⟨j, hj, rfl⟩ := ho
    rw [itemAt_lt ks r.outs j (by omega) hj]
    have hne := h.noIdxErr hi r.outs[j] (List.getElem_mem hj)
    cases ho : r.outs[j] with
    | ok v => intro hc; cases hc
    | error e =>
      rw [ho] at hne
      exact hne
  · intro hi ks hks
    rw [items_outs r ks hks]
    simp only [List.length_map, List.length_range]
    exact h.keysLen hi ks hks
  · intro hi ks (hks : r.keys = .ok ks) j hj
    have hkl := h.keysLen hi ks hks
    obtain ⟨j0, hki, hget⟩ := getInt_keyIndex h hi ks hks j hj
    rw [items_outs r ks hks, outAt_itemAt ks r.outs _ hkl rfl]
    simp only [itemsDS]
    rw [h.keys, hks, ok_bind, hki, ok_bind, hget]
    unfold itemAt
    rw [pyIndex_lt ks j hj]
    rfl

theorem rel_cache {d : DS} {r : RefDS} (h : Rel d r) (hi : r.indexable = true) :
    Rel (cacheDS d) (Ref.cache r) := by
  obtain ⟨hl, hg⟩ := h.idx hi
  refine
    { indexable := h.indexable, len := h.len, keys := h.keys, iter := ?_, iterK := ?_, idx := ?_,
      noIdxErr := h.noIdxErr, keysLen := h.keysLen, getKey := ?_ }
  · simp only [cacheDS, Ref.cache, h.len, hl, irange_map_getInt h hi]
  · simp only [cacheDS, Ref.cache, h.len, h.keys, hl]
    cases r.keys with
    | error e => rfl
    | ok ks =>
      simp only
      rw [irange_map]
      congr 1
      apply List.map_congr_left
      intro j _
      rw [hg j]
  · refine fun _ => ⟨hl, fun i => ?_⟩
    rw [show (Ref.cache r).outs = r.outs from rfl, ← normWalk_eq (walk := d.getInt) (fun j => hg j) i]
    simp only [cacheDS, h.len, hl, ok_bind]
  · intro _ ks (hks : r.keys = .ok ks) j hj
    obtain ⟨j0, hki, hget⟩ := getInt_keyIndex h hi ks hks j hj
    simp only [cacheDS, Ref.cache]
    rw [h.keys, hks, ok_bind, hki, ok_bind, hget]

theorem rel_catch (E : List Err) {d : DS} {r : RefDS} (h : Rel d r) (hi : r.indexable = true) :
    Rel (catchDS E d) (Ref.catch_ E r) := by
  obtain ⟨hl, hg⟩ := h.idx hi
  refine .of_not_indexable rfl rfl rfl rfl ?_ ?_
  · simp only [catchDS, Ref.catch_, h.len, hl, irange_map_getInt h hi]
  · simp only [catchDS, Ref.catch_, h.keys]
    cases hks : r.keys with
    | error e => rfl
    | ok ks =>
      simp only
      congr 1
      apply map_eq_range_map
      intro j hj
      rw [h.getKey hi ks hks j hj, pyIndex_lt ks j hj]
      rfl

theorem rel_prefetch (w : Nat) (t : Bool) (ce : Option (List Err)) {d : DS} {r : RefDS} (h : Rel d r)
    (hi : (ce.isSome ∨ ¬(w = 1 ∧ t = true)) → r.indexable = true) :
    Rel (prefetchDS w t ce d) (Ref.prefetch w t ce r) := by
  refine .of_not_indexable rfl rfl ?_ rfl ?_ ?_
  · cases ce <;> simp only [prefetchDS, Ref.prefetch, h.len]
  · simp only [prefetchDS, Ref.prefetch]
    by_cases hs : (w == 1 && t) = true
    · simp only [hs, if_true]
      cases ce with
      | none => exact h.iter
      | some E => exact (rel_catch E h (hi (Or.inl rfl))).iter
    · simp only [hs]
      have hi' : r.indexable = true := hi (.inr fun ⟨h1, h2⟩ => hs (by rw [h1, h2]; rfl))
      obtain ⟨hl, _⟩ := h.idx hi'
      simp only [h.len, hl, irange_map_getInt h hi']
      rfl
  · simp only [prefetchDS, Ref.prefetch]
    by_cases hs : (w == 1 && t) = true
    · simp only [hs, if_true]
      cases ce with
      | none => exact h.iterK
      | some E => exact (rel_catch E h (hi (Or.inl rfl))).iterK
    · simp only [hs]
      rfl

theorem parMap_eq (f : Val → Res Val) (b : Nat) (r : RefDS) :
    Ref.parMap f b r = Ref.map f r := by
  simp only [Ref.parMap, Ref.map, parMapStream]

theorem rel_parMap (f : Val → Res Val) (b : Nat) (hf : ∀ v, f v ≠ .error .indexError) {d : DS} {r : RefDS}
    (h : Rel d r) : Rel (parMapDS f b d) (Ref.parMap f b r) :=
  -- on the model side `parMapDS f b d` unfolds to `mapDS f d`: the buffer only shows in the machines
  parMap_eq f b r ▸ rel_map f hf h

/-! ### why `rel_items` needs a key table on indexable inputs (known defect F18)

  `ItemsDataset.__getitem__` evaluates `self.input.keys()` before anything else, so on an input that is
  indexable and iterates fine but whose `keys()` raises (here: a concatenation with a duplicate key,
  `AssertionError`), every `items()[i]` raises that exception: in range instead of the pair, and out
  of range instead of `IndexError`.  Iterating `items()` never calls `keys()` and yields both pairs. -/

def dupConcat : DS := concatDS [dictSrc [("d", .int 1)], dictSrc [("d", .int 2)]]

theorem items_getInt_without_keys_counterexample :
    dupConcat.keys = .error .assertionError ∧
    (itemsDS dupConcat).indexable = true ∧
    (itemsDS dupConcat).len = .ok 2 ∧
    dupConcat.getInt 0 = .ok (.int 1) ∧
    (itemsDS dupConcat).iter = ⟨[pairVal ("d", .int 1), pairVal ("d", .int 2)], none⟩ ∧
    (itemsDS dupConcat).getInt 0 = .error .assertionError ∧
    (itemsDS dupConcat).getInt 2 = .error .assertionError :=
  ⟨rfl, rfl, rfl, rfl, rfl, rfl, rfl⟩

end LazyDs
