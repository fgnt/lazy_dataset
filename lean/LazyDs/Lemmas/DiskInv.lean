/-
  Invariants, reachability and helper lemmas for the state machine `LazyDs.Disk`
  (`DiskCacheDataset`, C11): `step_ind`, the case analysis of `step` branch by branch, through which
  every invariant sees `step` (the equations for one given branch, `step_get_hit` and the like here
  and in C11, evaluate `step` by `simp` instead); the invariant `Good` with `Good.pass` (what a
  successor state must satisfy); the values a history returns (`run_values`).  The final theorems
  are in `LazyDs.Props.C11`.  Core Lean only.
-/
import LazyDs.Model.Cache
import LazyDs.Model.Disk
import LazyDs.Lemmas.Assoc
import LazyDs.Lemmas.Machine
import LazyDs.Lemmas.ListAux

namespace LazyDs.Disk

variable {V : Type}

deriving instance DecidableEq for Out
deriving instance DecidableEq for Op
deriving instance DecidableEq for Wrapper
deriving instance DecidableEq for St

def keys (es : List (Nat × V)) : List Nat := es.map (·.1)

/-- no alive wrapper (of the current process) has directory `d` open -/
def NoAliveOn (s : St V) (d : Nat) : Prop :=
  ∀ wr ∈ s.wrappers, wr.alive = true → wr.dir ≠ d

def Reach (f : Nat → V) (n ndirs : Nat) (s : St V) : Prop :=
  ∃ ops, (run f (init n ndirs) ops).1 = s

structure Good (f : Nat → V) (s : St V) : Prop where
  /-- the call counters cover exactly the examples -/
  calls_len : s.calls.length = s.n
  /-- every entry of every existing directory is the right value at the right index -/
  entries : ∀ (d : Nat) (es : List (Nat × V)), s.dirs[d]? = some (some es) →
    ∀ i v, (i, v) ∈ es → v = f i ∧ i < s.n
  /-- at most one entry per example in every existing directory -/
  nodup : ∀ (d : Nat) (es : List (Nat × V)), s.dirs[d]? = some (some es) → (keys es).Nodup
  /-- an alive wrapper has a holder -/
  holders : ∀ (w : Nat) (wr : Wrapper), s.wrappers[w]? = some wr → wr.alive = true →
    1 ≤ wr.holders
  /-- the directory of an alive wrapper exists -/
  has_dir : ∀ (w : Nat) (wr : Wrapper), s.wrappers[w]? = some wr → wr.alive = true →
    ∃ es, s.dirs[wr.dir]? = some (some es)
  /-- no two alive wrappers share a directory -/
  unique : ∀ (w w' : Nat) (wr wr' : Wrapper), s.wrappers[w]? = some wr →
    s.wrappers[w']? = some wr' → wr.alive = true → wr'.alive = true → wr.dir = wr'.dir → w = w'

/-! ## `lookup` -/

theorem lookup_eq_cache (es : List (Nat × V)) (j : Nat) : lookup es j = Cache.lookup es j := rfl

theorem lookup_eq_none_iff {es : List (Nat × V)} {j : Nat} : lookup es j = none ↔ j ∉ keys es :=
  Assoc.lookup_eq_none_iff

theorem mem_of_lookup {es : List (Nat × V)} {j : Nat} {v : V} (h : lookup es j = some v) :
    (j, v) ∈ es := Assoc.mem_of_lookup h

theorem lookup_of_mem_nodup {es : List (Nat × V)} {j : Nat} {v : V}
    (hn : (keys es).Nodup) (hm : (j, v) ∈ es) : lookup es j = some v :=
  Assoc.lookup_of_mem hn hm

/-! ## The shape of a step -/

theorem any_alive_eq_false_iff (s : St V) (d : Nat) :
    (s.wrappers.any (fun wr => wr.alive && wr.dir == d)) = false ↔ NoAliveOn s d := by
  simp [NoAliveOn, List.any_eq_false]

theorem step_open_reuse (f : Nat → V) {s : St V} {d : Nat} (clear : Bool)
    {es : List (Nat × V)} (h : NoAliveOn s d) (hd : s.dirs[d]? = some (some es)) :
    step f s (.open_ d true clear) =
      ({ s with wrappers := s.wrappers ++ [⟨d, clear, 1, true⟩] }, .opened s.wrappers.length) := by
  rw [← any_alive_eq_false_iff] at h
  simp [step, h, hd]

theorem step_get_hit (f : Nat → V) {s : St V} {w i : Nat} {wr : Wrapper}
    {es : List (Nat × V)} {v : V}
    (hw : s.wrappers[w]? = some wr) (ha : wr.alive = true) (hi : i < s.n)
    (hd : s.dirs[wr.dir]? = some (some es)) (hl : lookup es i = some v) :
    step f s (.get w i) = (s, .val v) := by
  have : ¬ s.n ≤ i := by omega
  simp [step, hw, ha, this, hd, hl]

theorem step_get_miss (f : Nat → V) {s : St V} {w i : Nat} {wr : Wrapper}
    {es : List (Nat × V)}
    (hw : s.wrappers[w]? = some wr) (ha : wr.alive = true) (hi : i < s.n)
    (hd : s.dirs[wr.dir]? = some (some es)) (hl : lookup es i = none) :
    step f s (.get w i) =
      ({ s with dirs := s.dirs.set wr.dir (some (es ++ [(i, f i)])),
                calls := s.calls.set i (s.calls.getD i 0 + 1) }, .val (f i)) := by
  have : ¬ s.n ≤ i := by omega
  simp [step, hw, ha, this, hd, hl]

theorem step_kill (f : Nat → V) (s : St V) :
    step f s .kill =
      ({ s with wrappers := s.wrappers.map (fun wr => { wr with holders := 0, alive := false }) },
        .ok) := rfl

/-- `same` stands for the refusals (`.bad`, `.refused`: the state stays, the answer is no value),
    `holders` for `copy` and for a `release` that is not the last -/
theorem step_ind (f : Nat → V) {s : St V} {P : St V → Out V → Prop} (op : Op)
    (same : ∀ o, (∀ v, o ≠ .val v) → P s o)
    (open_new : ∀ d reuse clear, op = .open_ d reuse clear → NoAliveOn s d → s.dirs[d]? = some none →
      P { s with dirs := s.dirs.set d (some []), wrappers := s.wrappers ++ [⟨d, clear, 1, true⟩] }
        (.opened s.wrappers.length))
    (open_reuse : ∀ d clear es, op = .open_ d true clear → NoAliveOn s d →
      s.dirs[d]? = some (some es) →
      P { s with wrappers := s.wrappers ++ [⟨d, clear, 1, true⟩] } (.opened s.wrappers.length))
    (get_hit : ∀ w i wr es v, op = .get w i → s.wrappers[w]? = some wr → wr.alive = true → i < s.n →
      s.dirs[wr.dir]? = some (some es) → lookup es i = some v → P s (.val v))
    (get_miss : ∀ w i wr es, op = .get w i → s.wrappers[w]? = some wr → wr.alive = true → i < s.n →
      s.dirs[wr.dir]? = some (some es) → lookup es i = none →
      P { s with dirs := s.dirs.set wr.dir (some (es ++ [(i, f i)])),
                 calls := s.calls.set i (s.calls.getD i 0 + 1) } (.val (f i)))
    (holders : ∀ w wr k, s.wrappers[w]? = some wr → wr.alive = true → 1 ≤ k →
      P { s with wrappers := s.wrappers.set w { wr with holders := k } } .ok)
    (release_last : ∀ w wr, op = .release w → s.wrappers[w]? = some wr → wr.alive = true →
      wr.holders ≤ 1 →
      P { s with dirs := if wr.clear then s.dirs.set wr.dir none else s.dirs,
                 wrappers := s.wrappers.set w { wr with holders := 0, alive := false } } .ok)
    (kill : P { s with
      wrappers := s.wrappers.map (fun wr => { wr with holders := 0, alive := false }) } .ok) :
    P (step f s op).1 (step f s op).2 := by
  unfold step
  cases op with
  | open_ d reuse clear =>
    dsimp only
    split
    · exact same _ nofun
    · next hn =>
      rw [Bool.not_eq_true, any_alive_eq_false_iff] at hn
      split
      · exact same _ nofun
      · next hd => exact open_new d reuse clear rfl hn hd
      · next es hd =>
        split
        · next hr => cases hr; exact open_reuse d clear es rfl hn hd
        · exact same _ nofun
  | get w i =>
    dsimp only
    split
    · next wr hw =>
      split
      · exact same _ nofun
      · next hc =>
        rw [Bool.or_eq_true, not_or, Bool.not_eq_true', Bool.not_eq_false, decide_eq_true_eq,
          Nat.not_le] at hc
        split
        · next es hd =>
          split
          · next v hl => exact get_hit w i wr es v rfl hw hc.1 hc.2 hd hl
          · next hl => exact get_miss w i wr es rfl hw hc.1 hc.2 hd hl
        · exact same _ nofun
    · exact same _ nofun
  | copy w =>
    dsimp only
    split
    · next wr hw =>
      split
      · next ha => exact holders w wr _ hw ha (Nat.le_add_left 1 _)
      · exact same _ nofun
    · exact same _ nofun
  | release w =>
    dsimp only
    split
    · next wr hw =>
      split
      · exact same _ nofun
      · next ha =>
        rw [Bool.not_eq_true, Bool.not_eq_false'] at ha
        split
        · next hh => exact holders w wr _ hw ha (Nat.le_sub_one_of_lt hh)
        · next hh => exact release_last w wr rfl hw ha (Nat.not_lt.1 hh)
    · exact same _ nofun
  | kill => exact kill

/-! ## `run` -/

theorem isRun (f : Nat → V) : IsRun (step f) (run f) := ⟨fun _ => rfl, fun _ _ _ => rfl⟩

@[simp] theorem run_nil (f : Nat → V) (s : St V) : run f s [] = (s, []) := rfl

theorem run_cons (f : Nat → V) (s : St V) (op : Op) (ops : List Op) :
    run f s (op :: ops) =
      ((run f (step f s op).1 ops).1, (step f s op).2 :: (run f (step f s op).1 ops).2) := rfl

theorem run_length (f : Nat → V) (s : St V) (ops : List Op) :
    (run f s ops).2.length = ops.length := (isRun f).length s ops

theorem Reach.init (f : Nat → V) (n nd : Nat) : Reach f n nd (init n nd) := ⟨[], rfl⟩

theorem Reach.step {f : Nat → V} {n nd : Nat} {s : St V} (h : Reach f n nd s) (op : Op) :
    Reach f n nd (step f s op).1 := (isRun f).reach_step h op

theorem Reach.run {f : Nat → V} {n nd : Nat} {s : St V} (h : Reach f n nd s) (ops : List Op) :
    Reach f n nd (run f s ops).1 := (isRun f).reach_run h ops

/-! ## The invariant is inductive -/

theorem good_init (f : Nat → V) (n nd : Nat) : Good f (init n nd) where
  calls_len := by simp [init]
  entries := by
    intro d es h
    simp [init, List.getElem?_replicate] at h
  nodup := by
    intro d es h
    simp [init, List.getElem?_replicate] at h
  holders := by intro w wr h; simp [init] at h
  has_dir := by intro w wr h; simp [init] at h
  unique := by intro w w' wr wr' h; simp [init] at h

/-- `unique` is not asked of `t`: it follows from the last clause of `hw`, which says where an alive
    wrapper of `t` comes from -/
theorem Good.pass {f : Nat → V} {s t : St V} (hg : Good f s) (hn : t.n = s.n)
    (hc : t.calls.length = s.calls.length)
    (hd : ∀ (d : Nat) (es : List (Nat × V)), t.dirs[d]? = some (some es) →
      s.dirs[d]? = some (some es) ∨ (∀ i v, (i, v) ∈ es → v = f i ∧ i < s.n) ∧ (keys es).Nodup)
    (hw : ∀ (w : Nat) (wr : Wrapper), t.wrappers[w]? = some wr → wr.alive = true →
      1 ≤ wr.holders ∧ (∃ es, t.dirs[wr.dir]? = some (some es)) ∧
      ((∃ wr₀, s.wrappers[w]? = some wr₀ ∧ wr₀.alive = true ∧ wr₀.dir = wr.dir) ∨
        w = s.wrappers.length ∧ NoAliveOn s wr.dir)) : Good f t where
  calls_len := hc.trans (hg.calls_len.trans hn.symm)
  entries d es h := by rw [hn]; exact (hd d es h).elim (hg.entries d es) (·.1)
  nodup d es h := (hd d es h).elim (hg.nodup d es) (·.2)
  holders w wr h ha := (hw w wr h ha).1
  has_dir w wr h ha := (hw w wr h ha).2.1
  unique w w' wr wr' h h' ha ha' e := by
    rcases (hw w wr h ha).2.2 with ⟨a, h₀, ha₀, e₀⟩ | ⟨e₁, hn₁⟩ <;>
      rcases (hw w' wr' h' ha').2.2 with ⟨a', h₀', ha₀', e₀'⟩ | ⟨e₁', hn₁'⟩
    · exact hg.unique w w' a a' h₀ h₀' ha₀ ha₀' (by rw [e₀, e₀', e])
    · exact absurd (e₀.trans e) (hn₁' a (List.mem_of_getElem? h₀) ha₀)
    · exact absurd (e₀'.trans e.symm) (hn₁ a' (List.mem_of_getElem? h₀') ha₀')
    · exact e₁.trans e₁'.symm

theorem exists_dir_set {dirs : List (Option (List (Nat × V)))} {d d' : Nat} (x : List (Nat × V))
    (h : ∃ es, dirs[d']? = some (some es)) : ∃ es, (dirs.set d (some x))[d']? = some (some es) := by
  obtain ⟨es, h⟩ := h
  rw [List.getElem?_set]
  split
  · next e => subst e; rw [if_pos (List.lt_of_getElem?_eq_some h)]; exact ⟨x, rfl⟩
  · exact ⟨es, h⟩

theorem good_step {f : Nat → V} {s : St V} (hg : Good f s) (op : Op) :
    Good f (step f s op).1 := by
  -- what `Good.pass` asks of a wrapper that is alive in `s` and keeps its directory
  have kept : ∀ {dirs : List (Option (List (Nat × V)))} {w : Nat} {wr : Wrapper},
      s.wrappers[w]? = some wr → wr.alive = true → (∃ es, dirs[wr.dir]? = some (some es)) →
      1 ≤ wr.holders ∧ (∃ es, dirs[wr.dir]? = some (some es)) ∧
        ((∃ wr₀, s.wrappers[w]? = some wr₀ ∧ wr₀.alive = true ∧ wr₀.dir = wr.dir) ∨
          w = s.wrappers.length ∧ NoAliveOn s wr.dir) :=
    fun hw ha hd => ⟨hg.holders _ _ hw ha, hd, .inl ⟨_, hw, ha, rfl⟩⟩
  refine step_ind f (P := fun t _ => Good f t) op (same := fun _ _ => hg) ?open_new ?open_reuse
    (get_hit := fun _ _ _ _ _ _ _ _ _ _ _ => hg) ?get_miss ?holders ?release_last ?kill
  case open_new =>
    intro d _ clear _ hn hd
    refine hg.pass rfl rfl (fun d' es he => ?_) fun w wr hw ha => ?_
    · rcases List.getElem?_set_some_cases he with ⟨_, he⟩ | ⟨_, he⟩
      · cases he; exact .inr ⟨nofun, List.nodup_nil⟩
      · exact .inl he
    · rcases List.getElem?_append_singleton hw with hw | ⟨rfl, rfl⟩
      · exact kept hw ha (exists_dir_set [] (hg.has_dir w wr hw ha))
      · exact ⟨Nat.le_refl 1, ⟨[], List.getElem?_set_self (List.lt_of_getElem?_eq_some hd)⟩,
          .inr ⟨rfl, hn⟩⟩
  case open_reuse =>
    intro d clear es _ hn hd
    refine hg.pass rfl rfl (fun _ _ => .inl) fun w wr hw ha => ?_
    rcases List.getElem?_append_singleton hw with hw | ⟨rfl, rfl⟩
    · exact kept hw ha (hg.has_dir w wr hw ha)
    · exact ⟨Nat.le_refl 1, ⟨es, hd⟩, .inr ⟨rfl, hn⟩⟩
  case get_miss =>
    intro w i wr es _ _ _ hi hd hl
    refine hg.pass rfl (List.length_set ..) (fun d' es' he => ?_) fun w' wr' hw' ha' =>
      kept hw' ha' (exists_dir_set _ (hg.has_dir w' wr' hw' ha'))
    rcases List.getElem?_set_some_cases he with ⟨_, he⟩ | ⟨_, he⟩
    · cases he
      refine .inr ⟨fun k v hk => ?_, Assoc.nodup_keys_snoc (hg.nodup _ es hd) hl⟩
      rcases List.mem_append.1 hk with hk | hk
      · exact hg.entries _ es hd k v hk
      · cases List.mem_singleton.1 hk; exact ⟨rfl, hi⟩
    · exact .inl he
  case holders =>
    intro w wr k hw ha hk
    refine hg.pass rfl rfl (fun _ _ => .inl) fun w' wr' hw' ha' => ?_
    rcases List.getElem?_set_some_cases hw' with ⟨rfl, rfl⟩ | ⟨_, hw'⟩
    · exact ⟨hk, hg.has_dir w wr hw ha, .inl ⟨wr, hw, ha, rfl⟩⟩
    · exact kept hw' ha' (hg.has_dir w' wr' hw' ha')
  case release_last =>
    intro w wr _ hw ha _
    refine hg.pass rfl rfl (fun d es he => .inl ?_) fun w' wr' hw' ha' => ?_
    · split at he
      · exact (List.getElem?_set_some_cases he).elim (fun h => nomatch h.2) (·.2)
      · exact he
    · rcases List.getElem?_set_some_cases hw' with ⟨_, rfl⟩ | ⟨hne, hw'⟩
      · cases ha'
      · -- the directory that may go is that of `w` alone
        refine kept hw' ha' ?_
        obtain ⟨es, he⟩ := hg.has_dir w' wr' hw' ha'
        refine ⟨es, ?_⟩
        show (if wr.clear then s.dirs.set wr.dir none else s.dirs)[wr'.dir]? = _
        split
        · rw [List.getElem?_set, if_neg fun e => hne (hg.unique w w' wr wr' hw hw' ha ha' e)]
          exact he
        · exact he
  case kill =>
    refine hg.pass rfl rfl (fun _ _ => .inl) fun w wr hw ha => ?_
    rw [List.getElem?_map, Option.map_eq_some_iff] at hw
    obtain ⟨_, _, rfl⟩ := hw
    cases ha

theorem good_run {f : Nat → V} {s : St V} (hg : Good f s) (ops : List Op) :
    Good f (run f s ops).1 :=
  (isRun f).inv (P := Good f) (fun _ op _ h => good_step h op) hg

/-! ## Values -/

theorem step_get_value {f : Nat → V} {s : St V} (hg : Good f s) {w i : Nat} {v : V}
    (h : (step f s (.get w i)).2 = .val v) : v = f i := by
  revert h
  refine step_ind f (P := fun _ o => o = .val v → v = f i) _
    (same := fun _ ho e => absurd e (ho v)) (open_new := nofun) (open_reuse := nofun)
    (get_hit := fun _ _ _ es v' e _ _ _ hd hl e' => ?_)
    (get_miss := fun _ _ _ _ e _ _ _ _ _ e' => ?_)
    (holders := nofun) (release_last := nofun) (kill := nofun)
  · cases e; cases e'
    exact (hg.entries _ es hd i v (mem_of_lookup hl)).1
  · cases e; cases e'; rfl

theorem run_values {f : Nat → V} {s : St V} (hg : Good f s) (ops : List Op) :
    ∀ (k w i : Nat) (v : V), ops[k]? = some (Op.get w i) →
      (run f s ops).2[k]? = some (Out.val v) → v = f i :=
  fun _ w i v hk ho =>
    (isRun f).out (P := Good f) (Q := fun op o => ∀ w i v, op = .get w i → o = .val v → v = f i)
      (fun t op _ hg => ⟨good_step hg op, fun w i v e hv => by
        subst e; exact step_get_value hg hv⟩)
      hg hk ho w i v rfl rfl

/-! ## A concrete history (used by the examples of `LazyDs.Props.C11`) -/
namespace Ex

def fEx (i : Nat) : Nat := 10 * i + 7

def hist : List Op :=
  [ .open_ 0 false true,    -- wrapper 0 on directory 0 (created), clear
    .get 0 2,               -- miss: 27 written to directory 0
    .copy 0,                -- two holders
    .open_ 1 false false,   -- wrapper 1 on directory 1 (created), no clear
    .get 1 3,               -- miss: 37 written to directory 1
    .get 1 1,               -- miss: 17 written to directory 1
    .release 0,             -- one holder left: nothing happens
    .kill,                  -- the process dies: no finaliser, both directories stay
    .open_ 1 false false,   -- refused: the directory exists and reuse = False
    .open_ 1 true true,     -- wrapper 2 reuses directory 1, clear
    .get 2 3,               -- hit: 37, not recomputed
    .get 2 0,               -- miss: 7
    .get 1 3,               -- wrapper 1 died with the process: bad
    .release 2,             -- last holder, clear: directory 1 is removed
    .open_ 0 true false,    -- wrapper 3 reuses directory 0 (its clearing wrapper was killed)
    .get 3 2 ]              -- hit: 27

/-- the part of `hist` before the `kill` -/
def hist₁ : List Op := hist.take 7
/-- the part of `hist` after the `kill` -/
def hist₂ : List Op := hist.drop 8

def sPre : St Nat := (run fEx (init 4 2) hist₁).1
def sKilled : St Nat := (run fEx (init 4 2) (hist.take 8)).1
/-- the state after wrapper 2 has reopened directory 1 -/
def sReopen : St Nat := (run fEx (init 4 2) (hist.take 10)).1

end Ex

end LazyDs.Disk
