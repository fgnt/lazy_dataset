/-
  The Layer-B machines (`Cache`, `Disk`, `Heap`) and the reshuffle machine of `ShuffleLemmas` run a
  step function over a history and collect the outputs.  `IsRun step run` says that `run` is that
  iteration; what holds of such a `run` whatever the machine (length, append, the k-th output,
  invariants, reachability) is proved here.  The Layer-B machines instantiate it by
  `⟨fun _ => rfl, fun _ _ _ => rfl⟩`; `Db.mrun`, a plain `foldl`, uses `foldl_inv`; `Bucket.runAux`
  returns its pair the other way round and stands apart.
  `IsSched step run` is the counterpart for the Layer-C transition systems (`Stp`, `Lpm`), whose
  `step` is partial (`none`: the scheduled thread cannot move) and whose `run` executes a schedule of
  thread identifiers, failing at the first that cannot move.
  CORE LEAN ONLY.
-/
namespace LazyDs

/-- the step hypothesis is asked only for the operations that occur, so that a history may be
    restricted (`Cache.AllMem`, no `gc name`, no `mutate` below the watermark) -/
theorem foldl_inv {σ ι : Type} {f : σ → ι → σ} {P : σ → Prop} {ops : List ι}
    (hstep : ∀ s, ∀ op ∈ ops, P s → P (f s op)) {s : σ} (h : P s) : P (ops.foldl f s) := by
  induction ops generalizing s with
  | nil => exact h
  | cons op ops ih =>
    exact ih (fun t o ho => hstep t o (List.mem_cons_of_mem _ ho)) (hstep s op List.mem_cons_self h)

structure IsRun {σ ι ω : Type} (step : σ → ι → σ × ω) (run : σ → List ι → σ × List ω) : Prop where
  nil : ∀ s, run s [] = (s, [])
  cons : ∀ s op ops, run s (op :: ops) =
    ((run (step s op).1 ops).1, (step s op).2 :: (run (step s op).1 ops).2)

namespace IsRun

variable {σ ι ω : Type} {step : σ → ι → σ × ω} {run : σ → List ι → σ × List ω}

theorem fst_eq_foldl (R : IsRun step run) (s : σ) (ops : List ι) :
    (run s ops).1 = ops.foldl (fun s op => (step s op).1) s := by
  induction ops generalizing s with
  | nil => rw [R.nil]; rfl
  | cons op ops ih => rw [R.cons]; exact ih _

theorem inv (R : IsRun step run) {P : σ → Prop} {ops : List ι}
    (hstep : ∀ s, ∀ op ∈ ops, P s → P (step s op).1) {s : σ} (h : P s) : P (run s ops).1 :=
  R.fst_eq_foldl s ops ▸ foldl_inv hstep h

theorem append (R : IsRun step run) (s : σ) (a b : List ι) :
    run s (a ++ b) = ((run (run s a).1 b).1, (run s a).2 ++ (run (run s a).1 b).2) := by
  induction a generalizing s with
  | nil => rw [R.nil]; rfl
  | cons op a ih => rw [List.cons_append, R.cons, R.cons, ih]; rfl

theorem length (R : IsRun step run) (s : σ) (ops : List ι) : (run s ops).2.length = ops.length := by
  induction ops generalizing s with
  | nil => rw [R.nil]; rfl
  | cons op ops ih => rw [R.cons, List.length_cons, List.length_cons, ih]

theorem getElem? (R : IsRun step run) (s : σ) (ops : List ι) (k : Nat) :
    (run s ops).2[k]? = ops[k]?.map fun op => (step (run s (ops.take k)).1 op).2 := by
  induction ops generalizing s k with
  | nil => rw [R.nil]; rfl
  | cons op ops ih =>
    cases k with
    | zero => rw [R.cons, List.take_zero, R.nil]; rfl
    | succ k => rw [R.cons, List.take_succ_cons, R.cons, List.getElem?_cons_succ, ih]; rfl

theorem out (R : IsRun step run) {P : σ → Prop} {Q : ι → ω → Prop} {ops : List ι}
    (hstep : ∀ s, ∀ op ∈ ops, P s → P (step s op).1 ∧ Q op (step s op).2) {s : σ} (h : P s)
    {k : Nat} {op : ι} {o : ω} (hk : ops[k]? = some op) (ho : (run s ops).2[k]? = some o) :
    Q op o := by
  rw [R.getElem?, hk] at ho
  cases ho
  exact (hstep _ op (List.mem_of_getElem? hk)
    (R.inv (fun s o ho hs => (hstep s o (List.mem_of_mem_take ho) hs).1) h)).2

theorem reach_step (R : IsRun step run) {s₀ s : σ} (h : ∃ ops, (run s₀ ops).1 = s) (op : ι) :
    ∃ ops, (run s₀ ops).1 = (step s op).1 := by
  obtain ⟨ops, rfl⟩ := h
  exact ⟨ops ++ [op], by rw [R.append, R.cons, R.nil]⟩

theorem reach_run (R : IsRun step run) {s₀ s : σ} (h : ∃ ops, (run s₀ ops).1 = s) (ops : List ι) :
    ∃ ops', (run s₀ ops').1 = (run s ops).1 := by
  obtain ⟨ops₀, rfl⟩ := h
  exact ⟨ops₀ ++ ops, by rw [R.append]⟩

end IsRun

structure IsSched {σ τ : Type} (step : σ → τ → Option σ) (run : σ → List τ → Option σ) : Prop where
  nil : ∀ s, run s [] = some s
  cons : ∀ s t ts, run s (t :: ts) = (step s t).bind fun s' => run s' ts

namespace IsSched

variable {σ τ : Type} {step : σ → τ → Option σ} {run : σ → List τ → Option σ}

theorem inv (R : IsSched step run) {P : σ → Prop} (hstep : ∀ s t s', P s → step s t = some s' → P s')
    {s s' : σ} {ts : List τ} (h : P s) (hr : run s ts = some s') : P s' := by
  induction ts generalizing s with
  | nil => rw [R.nil] at hr; cases hr; exact h
  | cons t ts ih =>
    rw [R.cons] at hr
    obtain ⟨s₁, hs, hr⟩ := Option.bind_eq_some_iff.mp hr
    exact ih (hstep s t s₁ h hs) hr

theorem length_le (R : IsSched step run) {P : σ → Prop} {μ : σ → Nat}
    (hstep : ∀ s t s', P s → step s t = some s' → P s' ∧ μ s' < μ s)
    {s s' : σ} {ts : List τ} (h : P s) (hr : run s ts = some s') : ts.length + μ s' ≤ μ s := by
  induction ts generalizing s with
  | nil => rw [R.nil] at hr; cases hr; exact Nat.le_of_eq (Nat.zero_add _)
  | cons t ts ih =>
    rw [R.cons] at hr
    obtain ⟨s₁, hs, hr⟩ := Option.bind_eq_some_iff.mp hr
    obtain ⟨h₁, hlt⟩ := hstep s t s₁ h hs
    have := ih h₁ hr
    rw [List.length_cons]; omega

theorem append (R : IsSched step run) (s : σ) (a b : List τ) :
    run s (a ++ b) = (run s a).bind fun s' => run s' b := by
  induction a generalizing s with
  | nil => rw [R.nil]; rfl
  | cons t a ih =>
    rw [List.cons_append, R.cons, R.cons]
    cases step s t with
    | none => rfl
    | some s₁ => exact ih s₁

theorem reach_step (R : IsSched step run) {s₀ s s' : σ} {t : τ} (h : ∃ ts, run s₀ ts = some s)
    (hs : step s t = some s') : ∃ ts, run s₀ ts = some s' := by
  obtain ⟨ts, hr⟩ := h
  exact ⟨ts ++ [t], by rw [R.append, hr, Option.bind_some, R.cons, hs, Option.bind_some, R.nil]⟩

end IsSched

end LazyDs
