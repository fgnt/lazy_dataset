import LazyDs.Lemmas.Rel
/-
  Well-formedness of reference datasets: the statements of C02 / C03 on the eager data
  (`Rel` transports them to the model of the lazy code), their clauses as notions of their own, and
  how the generator loops `Stream.ofOuts` and `Stream.append` produce the clauses.
-/
namespace LazyDs

/-- what C02 and C03 say, on the reference data -/
structure RefWF (r : RefDS) : Prop where
  /-- C02: the t-th iterated example is the t-th positional outcome; iteration never yields more than
      `len` examples and, when it ends normally, exactly `len` -/
  pos : r.indexable = true → r.stream.vals.length ≤ r.outs.length ∧
        (∀ (t : Nat) (h : t < r.stream.vals.length), r.outs[t]? = some (.ok r.stream.vals[t])) ∧
        (r.stream.err = none → r.stream.vals.length = r.outs.length)
  /-- C02: a dataset that offers a length yields exactly that many examples when it ends normally -/
  len : ∀ n, r.len = .ok n → r.stream.err = none → r.stream.vals.length = n
  /-- C03: `items()` pairs every yielded example with a key: what it yields is a prefix of what
      iteration yields, and if it does not raise it is complete -/
  pairs : (r.kstream.vals.map (·.2)) <+: r.stream.vals ∧
          (r.kstream.err = none → r.kstream.vals.map (·.2) = r.stream.vals ∧ r.stream.err = none)
  /-- C03: with a key table, `items()` raises exactly when iteration does and pairs position `t`
      with `keys[t]` -/
  keyed : ∀ ks, r.keys = .ok ks → r.indexable = true →
          r.kstream.err = r.stream.err ∧ r.kstream.vals.map (·.2) = r.stream.vals ∧
          r.kstream.vals.map (·.1) = ks.take r.kstream.vals.length

/-- (continued) two bookkeeping facts that the stage lemmas need -/
structure RefWF2 (r : RefDS) : Prop extends RefWF r where
  lenOuts : r.indexable = true → r.len = .ok r.outs.length
  keysLen : r.indexable = true → ∀ ks, r.keys = .ok ks → ks.length = r.outs.length

/-! ### the clauses as notions

  A stage proves the clauses for the loop its reference runs (`Stream.ofOuts`, `Stream.append`, …) and
  assembles them with `RefWF2.of`. -/

/-- C02, positional (`RefWF.pos`) -/
def PosOK (outs : List (Res Val)) (s : Stream Val) : Prop :=
  s.vals.map .ok <+: outs ∧ (s.err = none → s.vals.length = outs.length)

/-- C03, pairing (`RefWF.pairs`) -/
def PairsOK (k : Stream (String × Val)) (s : Stream Val) : Prop :=
  k.vals.map (·.2) <+: s.vals ∧ (k.err = none → k.vals.map (·.2) = s.vals ∧ s.err = none)

/-- C03 with a key table (`RefWF.keyed`) -/
def KeyedOK (ks : List String) (k : Stream (String × Val)) (s : Stream Val) : Prop :=
  k.err = s.err ∧ k.vals.map (·.2) = s.vals ∧ k.vals.map (·.1) = ks.take k.vals.length

/-- what `Rel` and `RefWF2` both demand of `len` and of the key table -/
structure Sized (r : RefDS) : Prop where
  lenOuts : r.indexable = true → r.len = .ok r.outs.length
  keysLen : r.indexable = true → ∀ ks, r.keys = .ok ks → ks.length = r.outs.length

theorem all_indexable_mem {rs : List RefDS} (h : rs.all (·.indexable) = true) :
    ∀ r ∈ rs, r.indexable = true := by
  simpa using h

theorem Rel.sized {d : DS} {r : RefDS} (h : Rel d r) : Sized r := ⟨fun hi => (h.idx hi).1, h.keysLen⟩

theorem RefWF2.sized {r : RefDS} (h : RefWF2 r) : Sized r := ⟨h.lenOuts, h.keysLen⟩

theorem PosOK.getElem? {outs : List (Res Val)} {s : Stream Val} (h : PosOK outs s) {t : Nat} {v : Val}
    (hv : s.vals[t]? = some v) : outs[t]? = some (.ok v) := by
  obtain ⟨ht, rfl⟩ := List.getElem?_eq_some_iff.1 hv
  rw [List.prefix_iff_getElem?.1 h.1 t (by simpa using ht), List.getElem_map]

theorem PosOK.of_getElem? {outs : List (Res Val)} {s : Stream Val}
    (h1 : ∀ (t : Nat) (v : Val), s.vals[t]? = some v → outs[t]? = some (.ok v))
    (h2 : s.err = none → s.vals.length = outs.length) : PosOK outs s := by
  refine ⟨List.prefix_iff_getElem?.2 fun t ht => ?_, h2⟩
  have ht' : t < s.vals.length := by simpa using ht
  rw [h1 t _ (List.getElem?_eq_getElem ht'), List.getElem_map]

theorem PosOK.length_le {outs : List (Res Val)} {s : Stream Val} (h : PosOK outs s) :
    s.vals.length ≤ outs.length := by
  simpa using h.1.length_le

theorem RefWF.posOK {r : RefDS} (h : RefWF r) (hi : r.indexable = true) : PosOK r.outs r.stream :=
  .of_getElem? (fun t v hv => by
      obtain ⟨ht, rfl⟩ := List.getElem?_eq_some_iff.1 hv
      exact (h.pos hi).2.1 t ht) (h.pos hi).2.2

theorem Rel.getInt_iter {d : DS} {r : RefDS} (h : Rel d r) (wf : RefWF r) (hi : d.indexable = true) (t : Nat)
    (ht : t < d.iter.vals.length) : d.getInt (t : Int) = .ok d.iter.vals[t] := by
  have hri := h.ref_indexable hi
  rw [(h.idx hri).2, outAt_getElem? ((wf.posOK hri).getElem? (List.getElem?_eq_getElem (h.iter ▸ ht)))]
  simp only [h.iter]

theorem PairsOK.getElem? {k : Stream (String × Val)} {s : Stream Val} (h : PairsOK k s) {t : Nat}
    {kv : String × Val} (hv : k.vals[t]? = some kv) : s.vals[t]? = some kv.2 := by
  obtain ⟨ht, rfl⟩ := List.getElem?_eq_some_iff.1 hv
  rw [List.prefix_iff_getElem?.1 h.1 t (by simpa using ht), List.getElem_map]

theorem KeyedOK.getElem? {ks : List String} {k : Stream (String × Val)} {s : Stream Val}
    (h : KeyedOK ks k s) {t : Nat} {kv : String × Val} (hv : k.vals[t]? = some kv) :
    ks[t]? = some kv.1 ∧ s.vals[t]? = some kv.2 := by
  have h2 := congrArg (·[t]?) h.2.1
  have h3 := congrArg (·[t]?) h.2.2
  simp only [List.getElem?_map, hv, Option.map_some, List.getElem?_take,
    if_pos (List.getElem?_eq_some_iff.1 hv).1] at h2 h3
  exact ⟨h3.symm, h2.symm⟩

/-! C02 / C03 as they read on a model dataset `d` that refines a well-formed reference -/

theorem Rel.len_eq_count {d : DS} {r : RefDS} (h : Rel d r) (wf : RefWF r) {n : Nat} (hn : d.len = .ok n)
    (he : d.iter.err = none) : d.iter.vals.length = n := by
  rw [h.iter] at he ⊢
  exact wf.len n (h.len ▸ hn) he

theorem Rel.pairsOK {d : DS} {r : RefDS} (h : Rel d r) (wf : RefWF r) : PairsOK d.iterK d.iter :=
  h.iterK ▸ h.iter ▸ wf.pairs

theorem Rel.keyedOK {d : DS} {r : RefDS} (h : Rel d r) (wf : RefWF r) (hi : d.indexable = true)
    {ks : List String} (hk : d.keys = .ok ks) : KeyedOK ks d.iterK d.iter :=
  h.iterK ▸ h.iter ▸ wf.keyed ks (h.keys ▸ hk) (h.ref_indexable hi)

theorem Rel.getKey_getInt {d : DS} {r : RefDS} (h : Rel d r) (hi : d.indexable = true) {ks : List String}
    (hk : d.keys = .ok ks) (j : Nat) (hj : j < ks.length) : d.getKey ks[j] = d.getInt (j : Int) := by
  have hri := h.ref_indexable hi
  rw [h.getKey hri ks (h.keys ▸ hk) j hj, (h.idx hri).2]

theorem KeyedOK.pairs {ks : List String} {k : Stream (String × Val)} {s : Stream Val}
    (h : KeyedOK ks k s) : PairsOK k s :=
  ⟨h.2.1 ▸ List.prefix_refl _, fun he => ⟨h.2.1, h.1 ▸ he⟩⟩

theorem KeyedOK.length_eq {ks : List String} {k : Stream (String × Val)} {s : Stream Val}
    (h : KeyedOK ks k s) : k.vals.length = s.vals.length := by
  rw [← h.2.1, List.length_map]

theorem RefWF2.of {r : RefDS} (hpos : r.indexable = true → PosOK r.outs r.stream)
    (hlen : ∀ n, r.len = .ok n → r.stream.err = none → r.stream.vals.length = n)
    (hpairs : PairsOK r.kstream r.stream)
    (hkeyed : ∀ ks, r.keys = .ok ks → r.indexable = true → KeyedOK ks r.kstream r.stream)
    (hsz : Sized r) : RefWF2 r :=
  { pos := fun hi =>
      ⟨(hpos hi).length_le, fun _ ht => (hpos hi).getElem? (List.getElem?_eq_getElem ht), (hpos hi).2⟩
    len := hlen, pairs := hpairs, keyed := hkeyed, lenOuts := hsz.lenOuts, keysLen := hsz.keysLen }

theorem RefWF2.of_not_indexable {r : RefDS} (hni : r.indexable = false)
    (hlen : ∀ n, r.len = .ok n → r.stream.err = none → r.stream.vals.length = n)
    (hpairs : PairsOK r.kstream r.stream) : RefWF2 r :=
  .of (fun hi => nomatch hni.symm.trans hi) hlen hpairs (fun _ _ hi => nomatch hni.symm.trans hi)
    ⟨fun hi => (nomatch hni.symm.trans hi), fun hi => (nomatch hni.symm.trans hi)⟩

/-! ### `Stream.ofOuts`: evaluate a list of positions in turn

  The lists are given as `sel.map g` (`sel`: the positions walked, of any type): that is how the
  references write them (`sel`, `List.range n`, the order table, the key list). -/

section
variable {ι : Type}

theorem posOK_ofOuts_map (sel : List ι) (g o : ι → Res Val)
    (h : ∀ x ∈ sel, ∀ v, g x = .ok v → o x = .ok v) :
    PosOK (sel.map o) (Stream.ofOuts (sel.map g)) := by
  induction sel with
  | nil => exact ⟨List.prefix_refl _, fun _ => rfl⟩
  | cons x sel ih =>
    obtain ⟨i1, i2⟩ := ih fun x' hx' => h x' (by simp [hx'])
    rw [List.map_cons, List.map_cons]
    cases hg : g x with
    | error e => exact ⟨List.nil_prefix, fun h => nomatch h⟩
    | ok v =>
      rw [h x (by simp) v hg]
      exact ⟨(List.prefix_cons_inj _).2 i1, fun he => congrArg (· + 1) (i2 he)⟩

theorem posOK_ofOuts (l : List (Res Val)) : PosOK l (Stream.ofOuts l) := by
  simpa using posOK_ofOuts_map l id id fun _ _ _ h => h

theorem pairsOK_ofOuts_map (sel : List ι) (gK : ι → Res (String × Val)) (gS : ι → Res Val)
    (h : ∀ x ∈ sel, ∀ kv, gK x = .ok kv → gS x = .ok kv.2) :
    PairsOK (Stream.ofOuts (sel.map gK)) (Stream.ofOuts (sel.map gS)) := by
  induction sel with
  | nil => exact ⟨List.prefix_refl _, fun _ => ⟨rfl, rfl⟩⟩
  | cons x sel ih =>
    obtain ⟨i1, i2⟩ := ih fun x' hx' => h x' (by simp [hx'])
    rw [List.map_cons, List.map_cons]
    cases hg : gK x with
    | error e => exact ⟨List.nil_prefix, fun h => nomatch h⟩
    | ok kv =>
      rw [h x (by simp) kv hg]
      exact ⟨(List.prefix_cons_inj _).2 i1, fun he => ⟨congrArg _ (i2 he).1, (i2 he).2⟩⟩

theorem pairsOK_keyedWalk (sel : List ι) (f : ι → Res String) (g : ι → Res Val) :
    PairsOK (Stream.ofOuts (sel.map fun x => (do let k ← f x; let v ← g x; .ok (k, v) : Res (String × Val))))
      (Stream.ofOuts (sel.map g)) :=
  pairsOK_ofOuts_map sel _ g fun x _ kv h => by
    cases hf : f x with
    | error e => rw [hf] at h; cases h
    | ok k =>
      cases hg : g x with
      | error e => rw [hf, hg] at h; cases h
      | ok v => rw [hf, hg] at h; cases h; rfl

end

/-! ### the keyed walk: outcomes zipped with keys -/

/-- `zip(keys, outcomes)` where a failed outcome stays that failure -/
def pairOuts (ks : List String) (l : List (Res Val)) : List (Res (String × Val)) :=
  List.zipWith (fun k o => o >>= fun v => .ok (k, v)) ks l

theorem pairOuts_nil : pairOuts [] [] = [] := rfl

theorem pairOuts_cons (k : String) (ks : List String) (o : Res Val) (l : List (Res Val)) :
    pairOuts (k :: ks) (o :: l) = (o >>= fun v => .ok (k, v)) :: pairOuts ks l := rfl

theorem map_pair_eq_pairOuts {ι : Type} {f : ι → Res String} (g : ι → Res Val) :
    ∀ {sel : List ι} {ks : List String}, sel.mapM f = .ok ks →
      sel.map (fun x => (do let k ← f x; let v ← g x; .ok (k, v) : Res (String × Val)))
        = pairOuts ks (sel.map g)
  | [], ks, h => by cases h; rfl
  | x :: sel, [], h => by rw [List.mapM_eq_ok_iff] at h; cases h
  | x :: sel, k :: ks, h => by
    obtain ⟨hk, hs⟩ := List.mapM_cons_eq_ok_iff.1 h
    rw [List.map_cons, List.map_cons, pairOuts_cons, hk, map_pair_eq_pairOuts g hs]
    rfl

theorem keyedOK_pairOuts (ks : List String) (l : List (Res Val)) (h : ks.length = l.length) :
    KeyedOK ks (Stream.ofOuts (pairOuts ks l)) (Stream.ofOuts l) := by
  induction ks generalizing l with
  | nil => cases List.length_eq_zero_iff.1 h.symm; exact ⟨rfl, rfl, rfl⟩
  | cons k ks ih =>
    cases l with
    | nil => cases h
    | cons o l =>
      obtain ⟨i1, i2, i3⟩ := ih l (Nat.succ.inj h)
      cases o with
      | error e => exact ⟨rfl, rfl, rfl⟩
      | ok v => exact ⟨i1, congrArg _ i2, congrArg _ i3⟩

theorem PosOK.append {o1 o2 : List (Res Val)} {s1 s2 : Stream Val} (h1 : PosOK o1 s1)
    (h2 : PosOK o2 s2) : PosOK (o1 ++ o2) (s1.append s2) := by
  cases he : s1.err with
  | some e => rw [append_of_some he]; exact ⟨h1.1.trans (List.prefix_append _ _), fun h => nomatch h⟩
  | none =>
    rw [append_of_none he]
    have heq : s1.vals.map Except.ok = o1 := h1.1.eq_of_length (by simpa using h1.2 he)
    refine ⟨?_, fun h => ?_⟩
    · show (s1.vals ++ s2.vals).map Except.ok <+: o1 ++ o2
      rw [List.map_append, heq]; exact (List.prefix_append_right_inj _).2 h2.1
    · show (s1.vals ++ s2.vals).length = (o1 ++ o2).length
      rw [List.length_append, List.length_append, h1.2 he, h2.2 h]

theorem PairsOK.append {k1 k2 : Stream (String × Val)} {s1 s2 : Stream Val} (h1 : PairsOK k1 s1)
    (h2 : PairsOK k2 s2) : PairsOK (k1.append k2) (s1.append s2) := by
  cases he : k1.err with
  | some e =>
    rw [append_of_some he]
    refine ⟨h1.1.trans ?_, fun h => nomatch h⟩
    cases hs : s1.err with
    | some e' => rw [append_of_some hs]; exact List.prefix_refl _
    | none => rw [append_of_none hs]; exact List.prefix_append _ _
  | none =>
    obtain ⟨e1, e2⟩ := h1.2 he
    rw [append_of_none he, append_of_none e2]
    refine ⟨?_, fun h => ⟨?_, (h2.2 h).2⟩⟩
    · show (k1.vals ++ k2.vals).map (·.2) <+: s1.vals ++ s2.vals
      rw [List.map_append, e1]; exact (List.prefix_append_right_inj _).2 h2.1
    · show (k1.vals ++ k2.vals).map (·.2) = s1.vals ++ s2.vals
      rw [List.map_append, e1, (h2.2 h).1]

theorem KeyedOK.append {a b : List String} {k1 k2 : Stream (String × Val)} {s1 s2 : Stream Val}
    (h1 : KeyedOK a k1 s1) (h2 : KeyedOK b k2 s2) (hle : k1.vals.length ≤ a.length)
    (hfull : k1.err = none → k1.vals.length = a.length) :
    KeyedOK (a ++ b) (k1.append k2) (s1.append s2) := by
  obtain ⟨p1, p2, p3⟩ := h1
  obtain ⟨q1, q2, q3⟩ := h2
  cases he : k1.err with
  | some e =>
    rw [append_of_some he, append_of_some (p1 ▸ he)]
    exact ⟨rfl, p2, by show k1.vals.map (·.1) = _; rw [List.take_append_of_le_length hle, p3]⟩
  | none =>
    rw [append_of_none he, append_of_none (p1 ▸ he)]
    refine ⟨q1, ?_, ?_⟩
    · show (k1.vals ++ k2.vals).map (·.2) = s1.vals ++ s2.vals
      rw [List.map_append, p2, q2]
    · show (k1.vals ++ k2.vals).map (·.1) = (a ++ b).take (k1.vals ++ k2.vals).length
      rw [List.map_append, p3, q3, List.length_append, hfull he, List.take_length,
        List.take_length_add_append]

theorem posOK_map_ok (vs : List Val) : PosOK (vs.map .ok) ⟨vs, none⟩ :=
  ⟨List.prefix_refl _, fun _ => (List.length_map _).symm⟩

theorem wf2_listSrc (xs : List Val) : RefWF2 (Ref.listSrc xs) :=
  .of (fun _ => posOK_map_ok xs) (fun _ hn _ => Except.ok.inj hn) ⟨List.nil_prefix, fun h => nomatch h⟩
    (fun _ hk => nomatch hk) ⟨fun _ => congrArg Except.ok (List.length_map _).symm, fun _ _ hk => nomatch hk⟩

theorem wf2_dictSrc (kvs : List (String × Val)) : RefWF2 (Ref.dictSrc kvs) := by
  have hk : KeyedOK (kvs.map (·.1)) (Ref.dictSrc kvs).kstream (Ref.dictSrc kvs).stream :=
    ⟨rfl, rfl, by rw [← List.length_map (f := fun x : String × Val => x.1)]; exact (List.take_length ..).symm⟩
  refine .of (fun _ => ?_) (fun _ hn _ => (List.length_map _).trans (Except.ok.inj hn)) hk.pairs
    (fun _ hks _ => by cases hks; exact hk)
    ⟨fun _ => congrArg Except.ok (List.length_map _).symm,
      fun _ _ hks => by cases hks; exact (List.length_map _).trans (List.length_map _).symm⟩
  have := posOK_map_ok (kvs.map (·.2))
  rwa [List.map_map] at this

end LazyDs
