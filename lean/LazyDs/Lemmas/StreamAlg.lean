import LazyDs.Lemmas.Res
/-
  A stream is a list with two kinds of end (`nil`: the generator returned, `fail e`: it raised).
  `Stream.ind` is its induction principle; the generator loops `mapM`, `filterM`, `append`, `ofOuts`
  have one equation per constructor, and a law about them is one induction with those equations,
  so that a proof need not go down to `mapMAux` / `filterMAux`.
-/
namespace LazyDs

/-- `if f(x): if g(x): yield x` as one predicate: `g` is only evaluated where `f` said yes -/
def andThenPred {α} (f g : α → Res Bool) : α → Res Bool :=
  fun x => do let a ← f x; if a then g x else .ok false

theorem mapMAux_nil {α β} (f : α → Res β) (e : Option Err) : Stream.mapMAux f [] e = ⟨[], e⟩ := rfl

namespace Stream
variable {α β γ : Type}

/-- `yield`-or-`raise` in front of a stream: one step of a loop whose body may raise -/
def consR (o : Res α) (s : Stream α) : Stream α :=
  match o with
  | .ok a => cons a s
  | .error e => fail e

/-- one step of a filtering loop -/
def consIf (a : α) (o : Res Bool) (s : Stream α) : Stream α :=
  match o with
  | .ok true => cons a s
  | .ok false => s
  | .error e => fail e

theorem ind {motive : Stream α → Prop} (nil : motive nil) (fail : ∀ e, motive (fail e))
    (cons : ∀ a s, motive s → motive (cons a s)) : ∀ s, motive s
  | ⟨[], none⟩ => nil
  | ⟨[], some e⟩ => fail e
  | ⟨a :: l, e⟩ => cons a ⟨l, e⟩ (ind nil fail cons ⟨l, e⟩)

theorem consR_ok (a : α) (s : Stream α) : consR (.ok a) s = cons a s := rfl
theorem consR_error (e : Err) (s : Stream α) : consR (.error e) s = fail e := rfl

theorem ofList_nil : ofList ([] : List α) = nil := rfl
theorem ofList_cons (a : α) (l : List α) : ofList (a :: l) = cons a (ofList l) := rfl

theorem ofOuts_nil : ofOuts ([] : List (Res α)) = nil := rfl
theorem ofOuts_cons (o : Res α) (l : List (Res α)) : ofOuts (o :: l) = consR o (ofOuts l) := by
  cases o <;> rfl

theorem mapM_nil (f : α → Res β) : mapM f nil = nil := rfl
theorem mapM_fail (f : α → Res β) (e : Err) : mapM f (fail e) = fail e := rfl
theorem mapM_cons (f : α → Res β) (a : α) (s : Stream α) :
    mapM f (cons a s) = consR (f a) (mapM f s) := by
  simp only [mapM, cons, mapMAux]; cases f a <;> rfl

theorem filterM_nil (f : α → Res Bool) : filterM f nil = nil := rfl
theorem filterM_fail (f : α → Res Bool) (e : Err) : filterM f (fail e) = fail e := rfl
theorem filterM_cons (f : α → Res Bool) (a : α) (s : Stream α) :
    filterM f (cons a s) = consIf a (f a) (filterM f s) := by
  simp only [filterM, cons, filterMAux]
  cases f a with
  | error e => rfl
  | ok b => cases b <;> rfl

theorem nil_append (t : Stream α) : nil.append t = t := rfl
theorem fail_append (e : Err) (t : Stream α) : (fail e).append t = fail e := rfl
theorem cons_append (a : α) (s t : Stream α) : (cons a s).append t = cons a (s.append t) := by
  simp only [append, cons]; cases s.err <;> rfl
theorem consR_append (o : Res α) (s t : Stream α) : (consR o s).append t = consR o (s.append t) := by
  cases o with
  | ok a => exact cons_append a s t
  | error e => rfl
theorem consIf_append (a : α) (o : Res Bool) (s t : Stream α) :
    (consIf a o s).append t = consIf a o (s.append t) := by
  cases o with
  | error e => rfl
  | ok b => cases b; rfl; exact cons_append a s t

theorem mapM_consR (f : α → Res β) (o : Res α) (s : Stream α) :
    mapM f (consR o s) = consR (o >>= f) (mapM f s) := by
  cases o with
  | ok a => exact mapM_cons f a s
  | error e => rfl

theorem mapM_mapM (f : α → Res β) (g : β → Res γ) (s : Stream α) :
    (s.mapM f).mapM g = s.mapM (fun a => f a >>= g) := by
  induction s using ind with
  | nil => rfl
  | fail e => rfl
  | cons a s ih => simp only [mapM_cons, mapM_consR, ih]

theorem mapM_append (f : α → Res β) (s t : Stream α) :
    (s.append t).mapM f = (s.mapM f).append (t.mapM f) := by
  induction s using ind with
  | nil => rfl
  | fail e => rfl
  | cons a s ih => simp only [cons_append, mapM_cons, consR_append, ih]

theorem ofOuts_mapM (f : α → Res β) (l : List (Res α)) :
    (ofOuts l).mapM f = ofOuts (l.map (· >>= f)) := by
  induction l with
  | nil => rfl
  | cons o l ih => simp only [ofOuts_cons, mapM_consR, List.map_cons, ih]

theorem ofOuts_append (a b : List (Res α)) : ofOuts (a ++ b) = (ofOuts a).append (ofOuts b) := by
  induction a with
  | nil => rfl
  | cons o a ih => simp only [List.cons_append, ofOuts_cons, consR_append, ih]

theorem ofOuts_map_ok (l : List α) : ofOuts (l.map .ok) = ⟨l, none⟩ := by
  induction l with
  | nil => rfl
  | cons a l ih => rw [List.map_cons, ofOuts_cons, ih]; rfl

theorem filterM_consIf (g : α → Res Bool) (a : α) (o : Res Bool) (s : Stream α) :
    filterM g (consIf a o s)
      = consIf a (do let b ← o; if b then g a else .ok false) (filterM g s) := by
  cases o with
  | error e => rfl
  | ok b =>
    cases b with
    | false => rfl
    | true => exact (filterM_cons g a s).trans (by cases g a <;> rfl)

theorem filterM_filterM (f g : α → Res Bool) (s : Stream α) :
    (s.filterM f).filterM g = s.filterM (andThenPred f g) := by
  induction s using ind with
  | nil => rfl
  | fail e => rfl
  | cons a s ih => simp only [filterM_cons, filterM_consIf, ih, andThenPred]

theorem filterM_append (f : α → Res Bool) (s t : Stream α) :
    (s.append t).filterM f = (s.filterM f).append (t.filterM f) := by
  induction s using ind with
  | nil => rfl
  | fail e => rfl
  | cons a s ih => simp only [cons_append, filterM_cons, consIf_append, ih]

theorem mapM_total (f : α → Res β) (g : α → β) (s : Stream α) (h : ∀ a ∈ s.vals, f a = .ok (g a)) :
    s.mapM f = ⟨s.vals.map g, s.err⟩ := by
  induction s using ind with
  | nil => rfl
  | fail e => rfl
  | cons a s ih =>
    rw [mapM_cons, h a List.mem_cons_self, ih fun b hb => h b (List.mem_cons_of_mem _ hb)]
    rfl

theorem filterM_total (f : α → Res Bool) (q : α → Bool) (s : Stream α) (h : ∀ a ∈ s.vals, f a = .ok (q a)) :
    s.filterM f = ⟨s.vals.filter q, s.err⟩ := by
  induction s using ind with
  | nil => rfl
  | fail e => rfl
  | cons a s ih =>
    rw [filterM_cons, h a List.mem_cons_self, ih fun b hb => h b (List.mem_cons_of_mem _ hb)]
    show _ = Stream.mk (List.filter q (a :: s.vals)) s.err
    rw [List.filter_cons]
    cases q a <;> rfl

end Stream

/-! ### what `ofOuts` yields; the two cases of `append` -/

theorem ofOuts_spec {α} (l : List (Res α)) :
    (Stream.ofOuts l).vals.map .ok <+: l ∧
    ((Stream.ofOuts l).err = none → (Stream.ofOuts l).vals.map .ok = l) ∧
    (∀ e, (Stream.ofOuts l).err = some e → l[(Stream.ofOuts l).vals.length]? = some (.error e)) := by
  induction l with
  | nil => exact ⟨List.prefix_refl _, fun _ => rfl, fun e h => nomatch h⟩
  | cons o l ih =>
    cases o with
    | error e => exact ⟨List.nil_prefix, (fun h => nomatch h), fun e' h => by cases h; rfl⟩
    | ok v =>
      obtain ⟨h1, h2, h3⟩ := ih
      exact ⟨(List.prefix_cons_inj _).2 h1, fun h => congrArg _ (h2 h), h3⟩

theorem ofOuts_err_none_iff {α} {l : List (Res α)} :
    (Stream.ofOuts l).err = none ↔ ∀ o ∈ l, ∃ v, o = .ok v := by
  obtain ⟨_, h2, h3⟩ := ofOuts_spec l
  constructor
  · intro h o ho
    rw [← h2 h] at ho
    obtain ⟨v, _, rfl⟩ := List.mem_map.1 ho
    exact ⟨v, rfl⟩
  · intro h
    cases he : (Stream.ofOuts l).err with
    | none => rfl
    | some e =>
      obtain ⟨v, hv⟩ := h _ (List.mem_of_getElem? (h3 e he))
      cases hv

theorem ofOuts_length_of_err_none {α} {l : List (Res α)} (h : (Stream.ofOuts l).err = none) :
    (Stream.ofOuts l).vals.length = l.length := by
  rw [← List.length_map (f := Except.ok), (ofOuts_spec l).2.1 h]

theorem ofOuts_pos {α} : ∀ (l : List (Res α)), let s := Stream.ofOuts l;
    s.vals.length ≤ l.length ∧
    (∀ (t : Nat) (h : t < s.vals.length), l[t]? = some (.ok s.vals[t])) ∧
    (s.err = none → s.vals.length = l.length) ∧
    (∀ e, s.err = some e → l[s.vals.length]? = some (.error e)) := by
  intro l
  obtain ⟨h1, _, h3⟩ := ofOuts_spec l
  refine ⟨by simpa using h1.length_le, fun t h => ?_, ofOuts_length_of_err_none, h3⟩
  rw [List.prefix_iff_getElem?.1 h1 t (by simpa using h), List.getElem_map]

theorem append_of_some {α} {s t : Stream α} {e : Err} (h : s.err = some e) :
    s.append t = ⟨s.vals, some e⟩ := by simp only [Stream.append, h]

theorem append_of_none {α} {s t : Stream α} (h : s.err = none) :
    s.append t = ⟨s.vals ++ t.vals, t.err⟩ := by simp only [Stream.append, h]

theorem foldr_append_hom {α β ι} (F : Stream α → Stream β) (h0 : F .nil = .nil)
    (hA : ∀ s t, F (s.append t) = (F s).append (F t)) (g : ι → Stream α) (l : List ι) :
    F (l.foldr (fun i acc => (g i).append acc) .nil) = l.foldr (fun i acc => (F (g i)).append acc) .nil := by
  induction l with
  | nil => exact h0
  | cons i l ih => rw [List.foldr_cons, hA, ih, List.foldr_cons]

theorem ofOuts_flatten {α} (ls : List (List (Res α))) :
    ls.foldr (fun l acc => (Stream.ofOuts l).append acc) .nil = Stream.ofOuts ls.flatten := by
  induction ls with
  | nil => rfl
  | cons l ls ih => rw [List.foldr_cons, List.flatten_cons, Stream.ofOuts_append, ih]

/-! ### what `mapM` and `filterM` yield -/

theorem mapM_vals {α β} (f : α → Res β) (s : Stream α) :
    (s.mapM f).vals.map .ok = (s.vals.take (s.mapM f).vals.length).map f := by
  induction s using Stream.ind with
  | nil => rfl
  | fail e => rfl
  | cons a s ih =>
    rw [Stream.mapM_cons]
    cases hfa : f a with
    | error e => rfl
    | ok b =>
      show Except.ok b :: _ = List.map f (a :: List.take _ s.vals)
      rw [List.map_cons, hfa, ih]

theorem mapM_err_none_iff {α β} (f : α → Res β) (s : Stream α) :
    (s.mapM f).err = none ↔ s.err = none ∧ ∀ x ∈ s.vals, ∃ y, f x = .ok y := by
  induction s using Stream.ind with
  | nil => exact ⟨fun _ => ⟨rfl, nofun⟩, fun _ => rfl⟩
  | fail e => exact ⟨nofun, fun h => nomatch h.1⟩
  | cons a s ih =>
    rw [Stream.mapM_cons]
    cases hfa : f a with
    | error e => exact ⟨nofun, fun h => by obtain ⟨y, hy⟩ := h.2 a List.mem_cons_self; rw [hfa] at hy; cases hy⟩
    | ok b =>
      refine ih.trans ⟨fun h => ⟨h.1, fun x hx => ?_⟩, fun h => ⟨h.1, fun x hx => h.2 x (List.mem_cons_of_mem _ hx)⟩⟩
      rcases List.mem_cons.1 hx with rfl | hx
      · exact ⟨b, hfa⟩
      · exact h.2 x hx

theorem mapM_length_of_err_none {α β} (f : α → Res β) (s : Stream α) (h : (s.mapM f).err = none) :
    (s.mapM f).vals.length = s.vals.length := by
  induction s using Stream.ind with
  | nil => rfl
  | fail e => rfl
  | cons a s ih =>
    rw [Stream.mapM_cons] at h ⊢
    cases hfa : f a with
    | error e => rw [hfa] at h; cases h
    | ok b => rw [hfa] at h; exact congrArg (· + 1) (ih h)

theorem mapM_prefix {α β} (f : α → Res β) (s : Stream α) : ∀ (t : Stream α), s.vals <+: t.vals →
    (s.mapM f).vals <+: (t.mapM f).vals := by
  induction s using Stream.ind with
  | nil => exact fun _ _ => List.nil_prefix
  | fail e => exact fun _ _ => List.nil_prefix
  | cons a s ih =>
    rintro ⟨_ | ⟨a', l⟩, e⟩ h
    · exact absurd h (by simp [Stream.cons])
    · obtain ⟨rfl, h'⟩ := List.cons_prefix_cons.1 (h : a :: s.vals <+: a' :: l)
      rw [Stream.mapM_cons, show (⟨a :: l, e⟩ : Stream α) = Stream.cons a ⟨l, e⟩ from rfl, Stream.mapM_cons]
      cases f a with
      | error e' => exact List.nil_prefix
      | ok b => exact (List.prefix_cons_inj _).2 (ih ⟨l, e⟩ h')

theorem mapM_onSnd {κ α β} (f : α → Res β) (k : Stream (κ × α)) :
    (k.mapM fun kv => (do let v ← f kv.2; .ok (kv.1, v) : Res (κ × β))).err
      = (Stream.mapM f ⟨k.vals.map (·.2), k.err⟩).err ∧
    (k.mapM fun kv => (do let v ← f kv.2; .ok (kv.1, v) : Res (κ × β))).vals.map (·.2)
      = (Stream.mapM f ⟨k.vals.map (·.2), k.err⟩).vals ∧
    (k.mapM fun kv => (do let v ← f kv.2; .ok (kv.1, v) : Res (κ × β))).vals.map (·.1)
      = (k.vals.map (·.1)).take (k.mapM fun kv => (do let v ← f kv.2; .ok (kv.1, v) : Res (κ × β))).vals.length := by
  induction k using Stream.ind with
  | nil => exact ⟨rfl, rfl, rfl⟩
  | fail e => exact ⟨rfl, rfl, rfl⟩
  | cons kv k ih =>
    rw [Stream.mapM_cons, show (⟨(Stream.cons kv k).vals.map (·.2), (Stream.cons kv k).err⟩ : Stream α)
      = Stream.cons kv.2 ⟨k.vals.map (·.2), k.err⟩ from rfl, Stream.mapM_cons]
    cases f kv.2 with
    | error e => exact ⟨rfl, rfl, rfl⟩
    | ok v => exact ⟨ih.1, congrArg _ ih.2.1, congrArg _ ih.2.2⟩

theorem mapM_length_le {α β} (f : α → Res β) (s : Stream α) : (s.mapM f).vals.length ≤ s.vals.length := by
  have := congrArg List.length (mapM_vals f s)
  rw [List.length_map, List.length_map, List.length_take] at this
  omega

theorem mapM_getElem? {α β} (f : α → Res β) (s : Stream α) {t : Nat} {v : β}
    (h : (s.mapM f).vals[t]? = some v) : ∃ a, s.vals[t]? = some a ∧ f a = .ok v := by
  have := congrArg (·[t]?) (mapM_vals f s)
  simp only [List.getElem?_map, h, Option.map_some, List.getElem?_take,
    if_pos (List.getElem?_eq_some_iff.1 h).1] at this
  obtain ⟨a, ha, hfa⟩ := Option.map_eq_some_iff.1 this.symm
  exact ⟨a, ha, hfa⟩

theorem filterM_sublist {α} (f : α → Res Bool) (s : Stream α) : (s.filterM f).vals.Sublist s.vals := by
  induction s using Stream.ind with
  | nil => exact .slnil
  | fail e => exact .slnil
  | cons a s ih =>
    rw [Stream.filterM_cons]
    cases f a with
    | error e => exact List.nil_sublist _
    | ok b => cases b; exact ih.cons a; exact ih.cons_cons a

theorem filterM_err_none_iff {α} (f : α → Res Bool) (s : Stream α) :
    (s.filterM f).err = none ↔ s.err = none ∧ ∀ x ∈ s.vals, ∃ b, f x = .ok b := by
  induction s using Stream.ind with
  | nil => exact ⟨fun _ => ⟨rfl, nofun⟩, fun _ => rfl⟩
  | fail e => exact ⟨nofun, fun h => nomatch h.1⟩
  | cons a s ih =>
    rw [Stream.filterM_cons]
    cases hfa : f a with
    | error e => exact ⟨nofun, fun h => by obtain ⟨y, hy⟩ := h.2 a List.mem_cons_self; rw [hfa] at hy; cases hy⟩
    | ok b =>
      have : (Stream.consIf a (.ok b) (s.filterM f)).err = (s.filterM f).err := by cases b <;> rfl
      rw [this]
      refine ih.trans ⟨fun h => ⟨h.1, fun x hx => ?_⟩, fun h => ⟨h.1, fun x hx => h.2 x (List.mem_cons_of_mem _ hx)⟩⟩
      rcases List.mem_cons.1 hx with rfl | hx
      · exact ⟨b, hfa⟩
      · exact h.2 x hx

theorem filterM_prefix {α} (f : α → Res Bool) (s : Stream α) : ∀ (t : Stream α), s.vals <+: t.vals →
    (s.filterM f).vals <+: (t.filterM f).vals := by
  induction s using Stream.ind with
  | nil => exact fun _ _ => List.nil_prefix
  | fail e => exact fun _ _ => List.nil_prefix
  | cons a s ih =>
    rintro ⟨_ | ⟨a', l⟩, e⟩ h
    · exact absurd h (by simp [Stream.cons])
    · obtain ⟨rfl, h'⟩ := List.cons_prefix_cons.1 (h : a :: s.vals <+: a' :: l)
      rw [Stream.filterM_cons, show (⟨a :: l, e⟩ : Stream α) = Stream.cons a ⟨l, e⟩ from rfl, Stream.filterM_cons]
      cases f a with
      | error e' => exact List.nil_prefix
      | ok b => cases b; exact ih ⟨l, e⟩ h'; exact (List.prefix_cons_inj _).2 (ih ⟨l, e⟩ h')

theorem filterM_onSnd {κ α} (f : α → Res Bool) (k : Stream (κ × α)) :
    (k.filterM fun kv => f kv.2).err = (Stream.filterM f ⟨k.vals.map (·.2), k.err⟩).err ∧
    (k.filterM fun kv => f kv.2).vals.map (·.2) = (Stream.filterM f ⟨k.vals.map (·.2), k.err⟩).vals := by
  induction k using Stream.ind with
  | nil => exact ⟨rfl, rfl⟩
  | fail e => exact ⟨rfl, rfl⟩
  | cons kv k ih =>
    rw [Stream.filterM_cons, show (⟨(Stream.cons kv k).vals.map (·.2), (Stream.cons kv k).err⟩ : Stream α)
      = Stream.cons kv.2 ⟨k.vals.map (·.2), k.err⟩ from rfl, Stream.filterM_cons]
    cases f kv.2 with
    | error e => exact ⟨rfl, rfl⟩
    | ok b => cases b; exact ih; exact ⟨ih.1, congrArg _ ih.2⟩

end LazyDs
