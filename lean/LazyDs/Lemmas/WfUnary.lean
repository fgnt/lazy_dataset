import LazyDs.Lemmas.RefWF
import LazyDs.Lemmas.RelItems
/-
  The C02 / C03 statements on the reference data (`RefWF2`) are preserved by the unary combinators
  of `Spec/Ref.lean`: map, lazy filter, unbatch, slice, items, cache, catch, prefetch and parallel map.
-/
namespace LazyDs

/-! ### pairing outcomes with keys

  A reference pairs position `j` with `pyIndex ks j`; where its key table exists, the keyed walk is the
  outcomes zipped with the keys (`pairOuts`, `map_pair_eq_pairOuts` in `Lemmas/RefWF.lean`). -/

theorem range_mapM_pyIndex {α} (l : List α) :
    (List.range l.length).mapM (fun (j : Nat) => pyIndex l (j : Int)) = .ok l := by
  rw [List.mapM_eq_ok_iff]
  exact (map_eq_range_map Except.ok _ l fun j h => (pyIndex_lt l j h).symm).symm

theorem keyedRange_eq (ks : List String) (l : List (Res Val)) (h : ks.length = l.length) :
    (List.range l.length).map (fun (j : Nat) => (do
        let k ← pyIndex ks (j : Int)
        let v ← outAt l (j : Int)
        .ok (k, v) : Res (String × Val))) = pairOuts ks l := by
  rw [map_pair_eq_pairOuts _ (h ▸ range_mapM_pyIndex ks), range_map_outAt]

theorem catchOuts_cons_ok {α} (E : List Err) (v : α) (l : List (Res α)) :
    catchOuts E (.ok v :: l) = .cons v (catchOuts E l) := rfl

theorem catchOuts_cons_error {α} (E : List Err) (e : Err) (l : List (Res α)) :
    catchOuts E (.error e :: l) = if e.isAny E then catchOuts E l else .fail e := rfl

theorem catchOuts_pairOuts (E : List Err) (ks : List String) (l : List (Res Val)) (h : ks.length = l.length) :
    (catchOuts E (pairOuts ks l)).err = (catchOuts E l).err ∧
    (catchOuts E (pairOuts ks l)).vals.map (·.2) = (catchOuts E l).vals := by
  induction ks generalizing l with
  | nil => cases List.length_eq_zero_iff.1 h.symm; exact ⟨rfl, rfl⟩
  | cons k ks ih =>
    cases l with
    | nil => cases h
    | cons o l =>
      have ih := ih l (Nat.succ.inj h)
      cases o with
      | ok v => exact ⟨ih.1, congrArg _ ih.2⟩
      | error e =>
        rw [pairOuts_cons, error_bind, catchOuts_cons_error, catchOuts_cons_error]
        cases e.isAny E with
        | true => exact ih
        | false => exact ⟨rfl, rfl⟩

/-! ### loops that act on the examples only -/

/-- `T` is a loop over the examples, `k'` what it makes of the keyed iteration; `hk` says that `T` commutes
    with dropping the keys, in the form that `mapM_onSnd` and `filterM_onSnd` give -/
theorem PairsOK.lift {k k' : Stream (String × Val)} {s : Stream Val} (h : PairsOK k s)
    {T : Stream Val → Stream Val}
    (hk : k'.err = (T ⟨k.vals.map (·.2), k.err⟩).err ∧ k'.vals.map (·.2) = (T ⟨k.vals.map (·.2), k.err⟩).vals)
    (hpre : ∀ a b : Stream Val, a.vals <+: b.vals → (T a).vals <+: (T b).vals)
    (herr : ∀ a : Stream Val, (T a).err = none → a.err = none) : PairsOK k' (T s) := by
  refine ⟨hk.2 ▸ hpre _ s h.1, fun he => ?_⟩
  have hke : k.err = none := herr _ (hk.1 ▸ he)
  obtain ⟨b, c⟩ := h.2 hke
  have hs : (⟨k.vals.map (·.2), k.err⟩ : Stream Val) = s := by rw [b, hke, ← c]
  rw [hs] at hk
  exact ⟨hk.2, hk.1 ▸ he⟩

theorem wf2_map (f : Val → Res Val) {r : RefDS} (h : RefWF2 r) : RefWF2 (Ref.map f r) := by
  obtain ⟨k1, k2, k3⟩ := mapM_onSnd (κ := String) f r.kstream
  have hend : (r.stream.mapM f).err = none → r.stream.err = none ∧
      (r.stream.mapM f).vals.length = r.stream.vals.length :=
    fun he => ⟨((mapM_err_none_iff f _).1 he).1, mapM_length_of_err_none f _ he⟩
  refine .of (fun hi => ?_) (fun n hn he => ?_)
    (PairsOK.lift h.pairs ⟨k1, k2⟩ (mapM_prefix f) fun a he => ((mapM_err_none_iff f a).1 he).1) (fun ks hks hi => ?_)
    ⟨fun hi => by simpa [Ref.map] using h.lenOuts hi, fun hi ks hks => by simpa [Ref.map] using h.keysLen hi ks hks⟩
  · have hp := h.toRefWF.posOK hi
    refine .of_getElem? (fun t v hv => ?_) fun he => ?_
    · obtain ⟨a, ha, hfa⟩ := mapM_getElem? f r.stream hv
      show (r.outs.map (· >>= f))[t]? = _
      rw [List.getElem?_map, hp.getElem? ha, Option.map_some, ok_bind, hfa]
    · show (r.stream.mapM f).vals.length = (r.outs.map (· >>= f)).length
      rw [(hend he).2, List.length_map]; exact hp.2 (hend he).1
  · exact (hend he).2.trans (h.len n hn (hend he).1)
  · obtain ⟨q1, q2, q3⟩ := h.keyed ks hks hi
    have hs : (⟨r.kstream.vals.map (·.2), r.kstream.err⟩ : Stream Val) = r.stream := by rw [q2, q1]
    rw [hs] at k1 k2
    refine ⟨k1, k2, k3.trans ?_⟩
    rw [q3, List.take_take, Nat.min_eq_left (mapM_length_le _ _)]
    rfl

theorem wf2_filter (f : Val → Res Bool) {r : RefDS} (h : RefWF2 r) : RefWF2 (Ref.filter f r) :=
  .of_not_indexable rfl (fun _ hn => nomatch hn)
    (PairsOK.lift h.pairs (filterM_onSnd (κ := String) f r.kstream) (filterM_prefix f)
      fun a he => ((filterM_err_none_iff f a).1 he).1)

theorem wf2_unbatch {r : RefDS} : RefWF2 (Ref.unbatch r) :=
  .of_not_indexable rfl (fun _ hn => nomatch hn) ⟨List.nil_prefix, fun h => nomatch h⟩

/-- a slice iterates its own outcome table and pairs it with its own key table: it is well-formed
    whatever the input is and wherever the positions point -/
theorem wf2_slice (sel : List Nat) (r : RefDS) : RefWF2 (Ref.slice sel r) := by
  refine .of (fun _ => posOK_ofOuts _) (fun n hn he => ?_) ?_ (fun ks' hks' _ => ?_)
    ⟨fun _ => congrArg Except.ok (List.length_map _).symm, fun _ ks' hks' => ?_⟩
  · cases hn
    exact (ofOuts_length_of_err_none he).trans (List.length_map _)
  · show PairsOK (Ref.selectK r.keys r.outs sel) _
    cases r.keys with
    | error e => exact ⟨List.nil_prefix, fun h => nomatch h⟩
    | ok ks => exact pairsOK_keyedWalk sel _ _
  · obtain ⟨ks, hks, hm⟩ := bind_eq_ok.1 (show Ref.selectKeys r.keys sel = _ from hks')
    show KeyedOK ks' (Ref.selectK r.keys r.outs sel) (.ofOuts _)
    rw [hks, Ref.selectK, map_pair_eq_pairOuts _ hm]
    exact keyedOK_pairOuts ks' _ (by rw [List.mapM_ok_length hm, List.length_map])
  · obtain ⟨ks, _, hm⟩ := bind_eq_ok.1 (show Ref.selectKeys r.keys sel = _ from hks')
    rw [List.mapM_ok_length hm]; exact (List.length_map _).symm

theorem mapErr_eq_none (e : Option Err) : Ref.mapErr e = none ↔ e = none := by
  cases e <;> simp [Ref.mapErr]

theorem wf2_items {r : RefDS} (h : RefWF2 r) (hk : r.indexable = true → ∃ ks, r.keys = .ok ks) :
    RefWF2 (Ref.items r) := by
  have e2 : (r.kstream.vals.map (fun kv => (kv.1, pairVal kv))).map (·.2) = r.kstream.vals.map pairVal := by
    simp [Function.comp_def]
  have e1 : (r.kstream.vals.map (fun kv => (kv.1, pairVal kv))).map (·.1) = r.kstream.vals.map (·.1) := by
    simp [List.map_map, Function.comp_def]
  refine .of (fun hi => ?_) (fun n hn he => ?_) ⟨e2 ▸ List.prefix_refl _, fun he => ⟨e2, he⟩⟩
    (fun ks hks hi => ⟨rfl, e2, ?_⟩) ⟨fun hi => ?_, fun hi ks (hks : r.keys = .ok ks) => ?_⟩
  · obtain ⟨ks, hks⟩ := hk hi
    have hkd : KeyedOK ks r.kstream r.stream := h.keyed ks hks hi
    have hp := h.toRefWF.posOK hi
    rw [items_outs r ks hks]
    refine .of_getElem? (fun t v hv => ?_) fun he => ?_
    · -- the `t`-th pair is `(ks[t], v)` with `v` the `t`-th example, which is outcome `t` of the input
      obtain ⟨kv, hkv, rfl⟩ := Option.map_eq_some_iff.1 ((List.getElem?_map ..).symm.trans hv)
      obtain ⟨h1, h2⟩ := hkd.getElem? hkv
      have ht : t < r.outs.length :=
        Nat.lt_of_lt_of_le (List.getElem?_eq_some_iff.1 h2).1 hp.length_le
      rw [List.getElem?_map, List.getElem?_range ht, Option.map_some, itemAt,
        (pyIndex_nat_ok_iff ks t _).2 h1, outAt_getElem? (hp.getElem? h2)]
      rfl
    · show (r.kstream.vals.map pairVal).length = _
      rw [List.length_map, List.length_map, List.length_range, hkd.length_eq]
      exact hp.2 (hkd.1 ▸ (mapErr_eq_none _).1 he)
  · have a := (mapErr_eq_none _).mp he
    obtain ⟨b, c⟩ := h.pairs.2 a
    show (r.kstream.vals.map pairVal).length = n
    rw [List.length_map, ← List.length_map (f := (·.2)), b]
    exact h.len n hn c
  · show (r.kstream.vals.map (fun kv => (kv.1, pairVal kv))).map (·.1)
      = ks.take (r.kstream.vals.map (fun kv => (kv.1, pairVal kv))).length
    rw [e1, List.length_map]
    exact (h.keyed ks hks hi).2.2
  · have := h.lenOuts hi
    simp only [Ref.items]
    cases r.keys <;> simp [this]
  · have := h.keysLen hi ks hks
    simp [Ref.items, hks, this]

theorem wf2_cache {r : RefDS} (h : Sized r) (hi : r.indexable = true) : RefWF2 (Ref.cache r) := by
  have hlo := h.lenOuts hi
  have hs : (Ref.cache r).stream = Stream.ofOuts r.outs := by simp only [Ref.cache, hlo]
  have hk : ∀ ks, r.keys = .ok ks → (Ref.cache r).kstream = .ofOuts (pairOuts ks r.outs) := fun ks hks => by
    simp only [Ref.cache, hks, hlo, keyedRange_eq ks r.outs (h.keysLen hi ks hks)]
  refine .of (fun _ => hs ▸ posOK_ofOuts _) (fun n hn he => ?_) ?_
    (fun ks hks _ => by rw [hs, hk ks hks]; exact keyedOK_pairOuts ks _ (h.keysLen hi ks hks))
    ⟨h.lenOuts, h.keysLen⟩
  · rw [hs] at he ⊢
    rw [ofOuts_length_of_err_none he, ← Except.ok.inj (hlo.symm.trans hn)]
  · cases hks : r.keys with
    | error e => simp only [Ref.cache, hks]; exact ⟨List.nil_prefix, fun h => nomatch h⟩
    | ok ks => rw [hs, hk ks hks]; exact (keyedOK_pairOuts ks _ (h.keysLen hi ks hks)).pairs

theorem wf2_catch (E : List Err) {r : RefDS} (h : Sized r) (hi : r.indexable = true) :
    RefWF2 (Ref.catch_ E r) := by
  refine .of_not_indexable rfl (fun n hn => nomatch hn) ?_
  cases hks : r.keys with
  | error e => simp only [Ref.catch_, hks]; exact ⟨List.nil_prefix, fun h => nomatch h⟩
  | ok ks =>
    have hkl := h.keysLen hi ks hks
    obtain ⟨a, b⟩ := catchOuts_pairOuts E ks r.outs hkl
    simp only [Ref.catch_, hks, h.lenOuts hi, hkl, keyedRange_eq ks r.outs hkl]
    exact ⟨b ▸ List.prefix_refl _, fun he => ⟨b, a ▸ he⟩⟩

theorem wf2_prefetch (w : Nat) (t : Bool) (ce : Option (List Err)) {r : RefDS} (h : RefWF2 r)
    (hidx : (ce.isSome ∨ ¬(w = 1 ∧ t = true)) → r.indexable = true) :
    RefWF2 (Ref.prefetch w t ce r) := by
  refine .of_not_indexable rfl (fun n hn he => ?_) ?_
  · cases ce with
    | some E => simp only [Ref.prefetch] at hn; cases hn
    | none =>
      simp only [Ref.prefetch] at hn he ⊢
      by_cases hs : (w == 1 && t) = true
      · simp only [hs, if_true] at he ⊢
        exact h.len n hn he
      · simp only [hs] at he ⊢
        have hi : r.indexable = true := hidx (.inr fun ⟨h1, h2⟩ => hs (by rw [h1, h2]; rfl))
        have hlo := h.lenOuts hi
        rw [hlo] at hn he ⊢
        injection hn with hn
        simp only [Bool.false_eq_true, if_false] at he ⊢
        rw [ofOuts_length_of_err_none he]
        exact hn
  · simp only [Ref.prefetch]
    by_cases hs : (w == 1 && t) = true
    · simp only [hs, if_true]
      cases ce with
      | none => exact h.pairs
      | some E => exact (wf2_catch E h.sized (hidx (Or.inl rfl))).pairs
    · simp [hs, Stream.fail, PairsOK]

/-- iterated sequentially the parallel map yields what `map` yields: the queue delivers what is still
    queued before a failure of the source (see `parMapStream`) -/
theorem wf2_parMap (f : Val → Res Val) (b : Nat) {r : RefDS} (h : RefWF2 r) :
    RefWF2 (Ref.parMap f b r) := by
  rw [parMap_eq]
  exact wf2_map f h

end LazyDs
