/-
  Association lists as the Layer-B models use them (`Cache.lookup`, `Disk.lookup`, `Db.lookup` are
  all `(l.find? (·.1 == k)).map (·.2)`, the keys are `l.map (·.1)`): the first entry of a key is
  the one `lookup` sees.  The models' own `lookup`s unfold to `Assoc.lookup` by `rfl`; the dict
  source of Layer A (`dictLookup`) and the store of explicit generators (`CopyCfg`) are read through it
  as well.  `set` is the assignment `d[k] = v`.
  CORE LEAN ONLY.
-/
namespace LazyDs.Assoc

variable {κ α : Type} [BEq κ]

def lookup (l : List (κ × α)) (k : κ) : Option α := (l.find? (·.1 == k)).map (·.2)

@[simp] theorem lookup_nil (k : κ) : lookup ([] : List (κ × α)) k = none := rfl

theorem lookup_cons (p : κ × α) (l : List (κ × α)) (k : κ) :
    lookup (p :: l) k = if p.1 == k then some p.2 else lookup l k := by
  unfold lookup
  rw [List.find?_cons]
  cases p.1 == k <;> rfl

theorem lookup_append (l₁ l₂ : List (κ × α)) (k : κ) :
    lookup (l₁ ++ l₂) k = (lookup l₁ k).orElse fun _ => lookup l₂ k := by
  induction l₁ with
  | nil => rfl
  | cons p l ih =>
    rw [List.cons_append, lookup_cons, lookup_cons, ih]
    split <;> rfl

variable [LawfulBEq κ]

theorem lookup_eq_none_iff {l : List (κ × α)} {k : κ} : lookup l k = none ↔ k ∉ l.map (·.1) := by
  induction l with
  | nil => simp
  | cons p l ih =>
    rw [lookup_cons, List.map_cons, List.mem_cons, not_or, ← ih]
    by_cases h : p.1 = k
    · simp [h]
    · simp [h, Ne.symm h]

theorem nodup_keys_snoc {l : List (κ × α)} {k : κ} {v : α} (hn : (l.map (·.1)).Nodup)
    (h : lookup l k = none) : ((l ++ [(k, v)]).map (·.1)).Nodup := by
  rw [List.map_append, List.nodup_append]
  refine ⟨hn, List.pairwise_singleton _ _, fun a ha b hb e => lookup_eq_none_iff.1 h ?_⟩
  cases List.mem_singleton.1 hb
  exact (show a = k from e) ▸ ha

theorem mem_of_lookup {l : List (κ × α)} {k : κ} {v : α} (h : lookup l k = some v) : (k, v) ∈ l := by
  induction l with
  | nil => cases h
  | cons p l ih =>
    rw [lookup_cons] at h
    split at h
    · next hk => cases h; cases eq_of_beq hk; exact List.mem_cons_self
    · exact List.mem_cons_of_mem _ (ih h)

theorem lookup_of_mem {l : List (κ × α)} (hn : (l.map (·.1)).Nodup) {k : κ} {v : α}
    (h : (k, v) ∈ l) : lookup l k = some v := by
  induction l with
  | nil => cases h
  | cons p l ih =>
    rw [List.map_cons, List.nodup_cons] at hn
    rw [lookup_cons]
    rcases List.mem_cons.1 h with rfl | h
    · rw [if_pos (beq_self_eq_true _)]
    · have hne : ¬ (p.1 == k) = true := fun e =>
        hn.1 (eq_of_beq e ▸ List.mem_map_of_mem (f := (·.1)) h)
      rw [if_neg hne, ih hn.2 h]

/-- `d[k] = v` on a Python dict: an existing key keeps its position and gets the value, any other key
    is appended (`Db.update` entry by entry, `CopyCfg.setState` on the explicit generators) -/
def set (l : List (κ × α)) (k : κ) (v : α) : List (κ × α) :=
  if (lookup l k).isSome then l.map (fun kv => if kv.1 == k then (k, v) else kv) else l ++ [(k, v)]

theorem lookup_map_set (l : List (κ × α)) (k : κ) (v : α) (k' : κ) :
    lookup (l.map fun kv => if kv.1 == k then (k, v) else kv) k' =
      if k == k' then (lookup l k).map (fun _ => v) else lookup l k' := by
  induction l with
  | nil => split <;> rfl
  | cons p l ih =>
    rw [List.map_cons, lookup_cons, ih, lookup_cons p l k', lookup_cons p l k]
    -- `if_pos`/`if_neg` by hand: there is no `DecidableEq κ`, so `simp` cannot turn an `==` test
    -- under an `if` into an equation and gives up on the whole goal
    by_cases hp : p.1 = k
    · subst hp; rw [if_pos (beq_self_eq_true _), if_pos (beq_self_eq_true _)]; split <;> rfl
    · have hp' : ¬(p.1 == k) = true := fun e => hp (eq_of_beq e)
      rw [if_neg hp', if_neg hp']
      by_cases hk : k = k'
      · subst hk; rw [if_pos (beq_self_eq_true _), if_pos (beq_self_eq_true _), if_neg hp']
      · rw [if_neg (fun e => hk (eq_of_beq e)), if_neg (fun e => hk (eq_of_beq e))]

theorem lookup_set (l : List (κ × α)) (k : κ) (v : α) (k' : κ) :
    lookup (set l k v) k' = if k == k' then some v else lookup l k' := by
  unfold set
  cases h : lookup l k with
  | some w => rw [Option.isSome_some, if_pos rfl, lookup_map_set, h]; rfl
  | none =>
    rw [Option.isSome_none, if_neg Bool.false_ne_true, lookup_append, lookup_cons, lookup_nil]
    by_cases hk : k = k'
    · subst hk; rw [h]; rfl
    · rw [if_neg (fun e => hk (eq_of_beq e)), if_neg (fun e => hk (eq_of_beq e))]
      cases lookup l k' <;> rfl

end LazyDs.Assoc
