import LazyDs.Lemmas.RelConcat
import LazyDs.Lemmas.RelBatch
/-
  The C02 / C03 statements on eager data (`RefWF2`) are preserved by the n-ary combinators
  `Ref.concat`, `Ref.zip` and by `Ref.batch`.
-/
namespace LazyDs

theorem WfNary.concat_cons_indexable (r : RefDS) (rs : List RefDS) :
    (Ref.concat (r :: rs)).indexable = (r.indexable && (Ref.concat rs).indexable) := rfl

theorem concat_posOK : ∀ (rs : List RefDS), (∀ r ∈ rs, PosOK r.outs r.stream) →
    PosOK (Ref.concat rs).outs (Ref.concat rs).stream
  | [], _ => ⟨List.prefix_refl _, fun _ => rfl⟩
  | r :: rs, h => by
    rw [concat_cons_outs, concat_cons_stream]
    exact (h r (by simp)).append (concat_posOK rs fun r' hr' => h r' (by simp [hr']))

theorem concat_pairsOK : ∀ (rs : List RefDS), (∀ r ∈ rs, PairsOK r.kstream r.stream) →
    PairsOK (Ref.concat rs).kstream (Ref.concat rs).stream
  | [], _ => ⟨List.prefix_refl _, fun _ => ⟨rfl, rfl⟩⟩
  | r :: rs, h => by
    rw [concat_cons_kstream, concat_cons_stream]
    exact (h r (by simp)).append (concat_pairsOK rs fun r' hr' => h r' (by simp [hr']))

theorem concat_keyedOK : ∀ (rs : List RefDS), (∀ r ∈ rs, RefWF2 r) → (∀ r ∈ rs, r.indexable = true) →
    ∀ kss, rs.mapM (·.keys) = .ok kss → KeyedOK kss.flatten (Ref.concat rs).kstream (Ref.concat rs).stream
  | [], _, _, kss, hm => by cases hm; exact ⟨rfl, rfl, rfl⟩
  | r :: rs, hwf, hi, [], hm => by rw [List.mapM_eq_ok_iff] at hm; cases hm
  | r :: rs, hwf, hi, b :: bs, hm => by
    rw [List.mapM_cons_eq_ok_iff] at hm
    have hw := hwf r (by simp)
    have hir := hi r (by simp)
    have hk : KeyedOK b r.kstream r.stream := hw.keyed b hm.1 hir
    have hp := hw.toRefWF.posOK hir
    have hbl := hw.keysLen hir b hm.1
    rw [concat_cons_kstream, concat_cons_stream]
    -- a part that ends normally has yielded one pair per key
    refine KeyedOK.append hk (concat_keyedOK rs (fun r' hr' => hwf r' (by simp [hr']))
      (fun r' hr' => hi r' (by simp [hr'])) bs hm.2) ?_ fun he => ?_
    · rw [hk.length_eq, hbl]; exact hp.length_le
    · rw [hk.length_eq, hbl]; exact hp.2 (hk.1 ▸ he)

theorem concat_len : ∀ (rs : List RefDS),
    (∀ r ∈ rs, ∀ n, r.len = .ok n → r.stream.err = none → r.stream.vals.length = n) →
    ∀ n, Ref.sumLens rs = .ok n → (Ref.concat rs).stream.err = none →
      (Ref.concat rs).stream.vals.length = n
  | [], _, n, hn, _ => by cases hn; rfl
  | r :: rs, h, n, hn, he => by
    simp only [Ref.sumLens, bind_eq_ok, Except.ok.injEq] at hn
    obtain ⟨a, ha, b, hb, rfl⟩ := hn
    rw [concat_cons_stream] at he ⊢
    cases h1 : r.stream.err with
    | some e => rw [append_of_some h1] at he; cases he
    | none =>
      rw [append_of_none h1] at he ⊢
      rw [List.length_append, h r (by simp) a ha h1,
        concat_len rs (fun r' hr' => h r' (by simp [hr'])) b hb he]

theorem wf2_concat {rs : List RefDS} (h : ∀ r ∈ rs, RefWF2 r) : RefWF2 (Ref.concat rs) :=
  .of (fun hix => concat_posOK rs fun r hr => (h r hr).toRefWF.posOK (all_indexable_mem hix r hr))
    (concat_len rs fun r hr => (h r hr).len)
    (concat_pairsOK rs fun r hr => (h r hr).pairs)
    (fun ks hk hix => by
      obtain ⟨kss, hm, -, rfl⟩ := concatKeys_eq_ok.1 hk
      exact concat_keyedOK rs h (all_indexable_mem hix) kss hm)
    (sized_concat fun r hr => (h r hr).sized)

/-! ### zip: what Python's `zip` over generators yields -/

theorem zipRow_eq_mapM {α} (p : Nat) : ∀ (ss : List (Stream α)),
    zipRow ss p = ss.mapM fun s => match s.vals[p]? with | none => .error s.err | some v => .ok v
  | [] => rfl
  | s :: ss => by
    rw [zipRow, List.mapM_cons, ← zipRow_eq_mapM p ss]
    cases s.vals[p]? with
    | none => rfl
    | some v => cases zipRow ss p <;> rfl

theorem zipRow_ok_lt {α} {ss : List (Stream α)} {p : Nat} {row : List α} (h : zipRow ss p = .ok row) :
    ∀ s ∈ ss, p < s.vals.length := fun s hs => by
  rw [zipRow_eq_mapM] at h
  obtain ⟨v, _, hv⟩ := List.mapM_ok_of_mem h hs
  cases hp : s.vals[p]? with
  | none => rw [hp] at hv; cases hv
  | some w => exact (List.getElem?_eq_some_iff.1 hp).1

theorem zipRow_error {α} {ss : List (Stream α)} {p : Nat} {e : Option Err} (h : zipRow ss p = .error e) :
    ∃ s ∈ ss, s.vals.length ≤ p ∧ s.err = e := by
  rw [zipRow_eq_mapM] at h
  obtain ⟨s, hs, he⟩ := List.mapM_error_mem h
  refine ⟨s, hs, ?_⟩
  cases hv : s.vals[p]? with
  | none => rw [hv] at he; cases he; exact ⟨List.getElem?_eq_none_iff.1 hv, rfl⟩
  | some v => rw [hv] at he; cases he

/-- the hypothesis: the fuel is enough for some iterator to run out -/
theorem zipRun_spec {α} (ss : List (Stream α)) : ∀ (fuel p : Nat),
    (∃ s ∈ ss, p ≤ s.vals.length ∧ s.vals.length < p + fuel) →
    (∀ t row, (zipRun ss fuel p).vals[t]? = some row → zipRow ss (p + t) = .ok row) ∧
    zipRow ss (p + (zipRun ss fuel p).vals.length) = .error (zipRun ss fuel p).err
  | 0, p, ⟨s, _, h1, h2⟩ => absurd h1 (Nat.not_le_of_lt h2)
  | fuel + 1, p, ⟨s, hs, h1, h2⟩ => by
    unfold zipRun
    cases hr : zipRow ss p with
    | error e => exact ⟨fun t row h => (nomatch h), hr⟩
    | ok row0 =>
      obtain ⟨i1, i2⟩ := zipRun_spec ss fuel (p + 1)
        ⟨s, hs, zipRow_ok_lt hr s hs, (Nat.add_right_comm p 1 fuel).symm ▸ h2⟩
      refine ⟨fun t row h => ?_, ?_⟩
      · cases t with
        | zero => cases h; exact hr
        | succ t => rw [← Nat.add_assoc, Nat.add_right_comm]; exact i1 t row h
      · show zipRow ss (p + ((zipRun ss fuel (p + 1)).vals.length + 1)) = _
        rw [← Nat.add_assoc, Nat.add_right_comm]; exact i2

theorem zipStreams_spec {α} (s : Stream α) (ss : List (Stream α)) :
    (∀ t row, (zipStreams (s :: ss)).vals[t]? = some row → zipRow (s :: ss) t = .ok row) ∧
    zipRow (s :: ss) (zipStreams (s :: ss)).vals.length = .error (zipStreams (s :: ss)).err := by
  have := zipRun_spec (s :: ss) (s.vals.length + 1) 0
    ⟨s, List.mem_cons_self, Nat.zero_le _, Nat.lt_of_lt_of_eq (Nat.lt_succ_self _) (Nat.zero_add _).symm⟩
  simp only [Nat.zero_add] at this
  exact this

theorem zipRow_outs (t : Nat) (rs : List RefDS) (row : List Val)
    (hp : ∀ r ∈ rs, PosOK r.outs r.stream) (h : zipRow (rs.map (·.stream)) t = .ok row) :
    (rs.map (·.outs)).mapM (fun l => outAt l (t : Int)) = .ok row := by
  rw [zipRow_eq_mapM, List.mapM_map] at h
  rw [List.mapM_map]
  refine List.mapM_ok_imp h fun r hr v hv => ?_
  cases hv' : r.stream.vals[t]? with
  | none => simp only [Function.comp, hv'] at hv; cases hv
  | some w =>
    simp only [Function.comp, hv'] at hv; cases hv
    exact outAt_getElem? ((hp r hr).getElem? hv')

theorem zip_rows {rs : List RefDS} {n : Nat} (hne : rs ≠ [])
    (hlen : ∀ r ∈ rs, r.stream.err = none → r.stream.vals.length = n)
    (he : (zipStreams (rs.map (·.stream))).err = none) :
    (zipStreams (rs.map (·.stream))).vals.length = n := by
  cases rs with
  | nil => exact absurd rfl hne
  | cons r rs' =>
    rw [List.map_cons] at he ⊢
    obtain ⟨h1, h2⟩ := zipStreams_spec r.stream (rs'.map (·.stream))
    rw [he] at h2
    obtain ⟨s, hs, hle, hse⟩ := zipRow_error h2
    rw [← List.map_cons] at hs
    obtain ⟨r0, hr0, rfl⟩ := List.mem_map.1 hs
    have hn := hlen r0 hr0 hse
    apply Nat.le_antisymm
    · apply Nat.le_of_not_lt
      intro hgt
      have hget : n < (zipStreams (r.stream :: rs'.map (·.stream))).vals.length := hgt
      have := zipRow_ok_lt (h1 n _ (List.getElem?_eq_getElem hget)) r0.stream
        (by rw [← List.map_cons]; exact List.mem_map_of_mem hr0)
      omega
    · omega

theorem wf2_zip {rs : List RefDS} (h : ∀ r ∈ rs, RefWF2 r) (hne : rs ≠ [])
    (hsame : ∃ n, ∀ r ∈ rs, r.len = .ok n) : RefWF2 (Ref.zip rs) := by
  obtain ⟨n, hn⟩ := hsame
  have hsz := sized_zip (fun r hr => (h r hr).sized) hne
  cases rs with
  | nil => exact absurd rfl hne
  | cons r rs' =>
    have hrows : (zipStreams ((r :: rs').map (·.stream))).err = none →
        (zipStreams ((r :: rs').map (·.stream))).vals.length = n :=
      zip_rows hne (fun r0 hr0 => (h r0 hr0).len n (hn r0 hr0))
    have hvals : (Ref.zip (r :: rs')).stream.vals.length
        = (zipStreams ((r :: rs').map (·.stream))).vals.length := List.length_map _
    refine .of (fun hix => ?_) (fun m hm he => ?_) ?_ (fun ks hk => nomatch hk) hsz
    · have hi := all_indexable_mem hix
      have hp : ∀ r0 ∈ r :: rs', PosOK r0.outs r0.stream :=
        fun r0 hr0 => (h r0 hr0).toRefWF.posOK (hi r0 hr0)
      have hol : (Ref.zip (r :: rs')).outs.length = n :=
        Except.ok.inj ((hsz.lenOuts hix).symm.trans (hn r (by simp)))
      refine .of_getElem? (fun t v hv => ?_) fun he => by rw [hol, hvals]; exact hrows he
      obtain ⟨row, hz, rfl⟩ := Option.map_eq_some_iff.1 ((List.getElem?_map ..).symm.trans hv)
      have hrow := (zipStreams_spec r.stream (rs'.map fun x : RefDS => x.stream)).1 t row hz
      have ht : t < r.outs.length :=
        Nat.lt_of_lt_of_le (zipRow_ok_lt hrow r.stream (by simp)) (hp r (by simp)).length_le
      show (Ref.zipOuts ((r :: rs').map (·.outs)) r.outs.length)[t]? = _
      rw [zipOuts_eq, List.getElem?_map, List.getElem?_range ht, Option.map_some, rowAt,
        zipRow_outs t (r :: rs') row hp hrow]
      rfl
    · rw [hvals, ← Except.ok.inj ((hn r (by simp)).symm.trans hm)]
      exact hrows he
    · exact ⟨List.nil_prefix, fun h => nomatch h⟩

theorem chunkOut_map_ok (c : List Val) : Ref.chunkOut (c.map Except.ok) = .ok (.list c) := by
  rw [Ref.chunkOut, List.mapM_eq_ok_iff.2 (List.map_id _)]; rfl

theorem chunkAux_map_ok {bs : Nat} (hbs : 1 ≤ bs) (dl : Bool) (V : List Val) :
    (chunkAux bs dl (V.map .ok) []).map Ref.chunkOut = ((chunkAux bs dl V []).map Val.list).map .ok := by
  rw [show chunkAux bs dl (V.map Except.ok) [] = _ from chunkAux_map (Except.ok : Val → Res Val) hbs dl V,
    List.map_map, List.map_map]
  exact List.map_congr_left fun c _ => chunkOut_map_ok c

theorem batch_posOK {r : RefDS} {bs : Nat} (hbs : 1 ≤ bs) (dl : Bool) (hp : PosOK r.outs r.stream) :
    PosOK (Ref.batch bs dl r).outs (Ref.batch bs dl r).stream := by
  show PosOK _ (batchStream bs dl r.stream)
  rw [batch_outs_eq hbs]
  unfold batchStream
  cases he : r.stream.err with
  | none =>
    -- the iteration ended normally, so `vals` are all the outcomes: same batches on both sides
    have heq : r.stream.vals.map .ok = r.outs := hp.1.eq_of_length (by simpa using hp.2 he)
    rw [← heq, chunkAux_map_ok hbs]
    exact ⟨List.prefix_refl _, fun _ => by simp only [List.length_map]⟩
  | some e =>
    -- the full batches of the yielded prefix are the first batches of the outcomes
    obtain ⟨rest, hrest⟩ := hp.1
    rw [← hrest]
    refine ⟨?_, fun h => nomatch h⟩
    rw [← chunkAux_map_ok hbs]
    exact (chunkAux_true_prefix bs dl rest _ []).map _

theorem batch_len {r : RefDS} {bs : Nat} (hbs : 1 ≤ bs) (dl : Bool)
    (hlen : ∀ n, r.len = .ok n → r.stream.err = none → r.stream.vals.length = n) :
    ∀ m, (Ref.batch bs dl r).len = .ok m → (Ref.batch bs dl r).stream.err = none →
      (Ref.batch bs dl r).stream.vals.length = m := by
  intro m hm he
  change (batchStream bs dl r.stream).err = none at he
  show (batchStream bs dl r.stream).vals.length = m
  unfold batchStream at he ⊢
  cases hs : r.stream.err with
  | some e => rw [hs] at he; cases he
  | none =>
    cases hn : r.len with
    | error e => simp only [Ref.batch, hn] at hm; cases hm
    | ok n =>
      rw [batch_len_ok hbs dl hn] at hm
      cases hm
      rw [List.length_map, chunkAux_length hbs, hlen n hn hs]

theorem sized_batch {r : RefDS} {bs : Nat} (hbs : 1 ≤ bs) (dl : Bool) (h : Sized r) :
    Sized (Ref.batch bs dl r) :=
  ⟨fun hi => batch_len_eq hbs dl r (h.lenOuts hi), fun _ _ hk => nomatch hk⟩

theorem wf2_batch {r : RefDS} {bs : Nat} {dropLast : Bool} (h : RefWF2 r) (hbs : 1 ≤ bs) :
    RefWF2 (Ref.batch bs dropLast r) :=
  .of (fun hi => batch_posOK hbs dropLast (h.toRefWF.posOK hi)) (batch_len hbs dropLast h.len)
    ⟨List.nil_prefix, fun h => nomatch h⟩ (fun _ hk => nomatch hk) (sized_batch hbs dropLast h.sized)

end LazyDs
