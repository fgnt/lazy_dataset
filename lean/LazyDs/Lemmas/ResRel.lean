import LazyDs.Model.Basic
import Batteries.Data.List.Basic
/-
  Predicates on results (`Res α = Except Err α`) that compose with `>>=`.

  A constructor of the model (`mkSlice`, `mkZip`, …) and its counterpart in the reference are the same
  monadic program up to the last `.ok`: once the fields of the model dataset are rewritten into those
  of the reference dataset, both run the same checks in the same order.  So a statement about the two
  results is proved by walking down both `do` blocks together (`Sim.bind_same`, `Sim.guard`), with no
  case analysis on the intermediate results; the same for a statement about one result (`WhenOk`).
-/
namespace LazyDs

/-- `P` holds of the value of `x`, if there is one -/
inductive WhenOk {α : Type} (P : α → Prop) : Res α → Prop
  | ok {a : α} : P a → WhenOk P (.ok a)
  | error (e : Err) : WhenOk P (.error e)

namespace WhenOk
variable {α β : Type} {P : α → Prop} {Q : β → Prop}

theorem elim {x : Res α} (h : WhenOk P x) {a : α} (hx : x = .ok a) : P a := by
  subst hx
  cases h with
  | ok h => exact h

theorem intro {x : Res α} (h : ∀ a, x = .ok a → P a) : WhenOk P x := by
  cases x with
  | ok a => exact .ok (h a rfl)
  | error e => exact .error e

theorem bind {x : Res β} {f : β → Res α} (hx : WhenOk Q x) (hf : ∀ b, Q b → WhenOk P (f b)) :
    WhenOk P (x >>= f) := by
  cases hx with
  | ok h => exact hf _ h
  | error e => exact .error e

theorem bind_eq {x : Res β} {f : β → Res α} (hf : ∀ b, x = .ok b → WhenOk P (f b)) : WhenOk P (x >>= f) :=
  bind (Q := fun b => x = .ok b) (intro fun _ h => h) hf

theorem ite (c : Prop) [Decidable c] {x x' : Res α} (ht : c → WhenOk P x) (he : ¬c → WhenOk P x') :
    WhenOk P (if c then x else x') := by
  split
  · exact ht ‹_›
  · exact he ‹_›

/-- `if c then throw e` followed by the rest `f` of a `do` block: the notation elaborates the pair to
    this shape.  A plain `if c then .error e else x` is an `ite`. -/
theorem guard {c : Prop} [Decidable c] {e : Err} {f : PUnit → Res α} (h : ¬c → WhenOk P (f ())) :
    WhenOk P (if c then MonadExcept.throw e >>= f else f ()) :=
  ite _ (fun _ => error e) h

end WhenOk

theorem whenOk_mapM {α β} {P : β → Prop} (f : α → Res β) (hf : ∀ a, WhenOk P (f a)) :
    ∀ l : List α, WhenOk (fun bs => ∀ b ∈ bs, P b) (l.mapM f)
  | [] => by rw [List.mapM_nil]; exact .ok fun _ hb => nomatch hb
  | a :: l => by
    rw [List.mapM_cons]
    exact (hf a).bind fun b hb => (whenOk_mapM f hf l).bind fun bs hbs =>
      .ok (List.forall_mem_cons.2 ⟨hb, hbs⟩)

/-- `x` (the model's result) against `y` (the reference's): both succeed with `R`-related values, or
    both fail with the same exception class.  The third possibility is the guard corner of
    `Dataset.__getitem__` (see `sim_mkSlice`): where `A` is false the model may raise `AssertionError`
    where the reference raises `RuntimeError`.  Statements that never meet the corner hold for every `A`. -/
inductive Sim {α β : Type} (R : α → β → Prop) (A : Prop) : Res α → Res β → Prop
  | ok {a : α} {b : β} : R a b → Sim R A (.ok a) (.ok b)
  | error (e : Err) : Sim R A (.error e) (.error e)
  | corner : ¬A → Sim R A (.error .assertionError) (.error .runtimeError)

namespace Sim
variable {α β α' β' γ : Type} {R : α → β → Prop} {R' : α' → β' → Prop} {A A' : Prop}

theorem ok_of {x : Res α} {y : Res β} (h : Sim R A x y) {a : α} (hx : x = .ok a) : ∃ b, y = .ok b ∧ R a b := by
  subst hx
  cases h with
  | ok hab => exact ⟨_, rfl, hab⟩

theorem err_of {x : Res α} {y : Res β} (h : Sim R A x y) {e : Err} (hx : x = .error e) :
    y = .error e ∨ (¬A ∧ e = .assertionError ∧ y = .error .runtimeError) := by
  subst hx
  cases h with
  | error => exact .inl rfl
  | corner hA => exact .inr ⟨hA, rfl, rfl⟩

theorem isOk_iff {x : Res α} {y : Res β} (h : Sim R A x y) : (∃ a, x = .ok a) ↔ (∃ b, y = .ok b) := by
  cases h with
  | ok _ => exact ⟨fun _ => ⟨_, rfl⟩, fun _ => ⟨_, rfl⟩⟩
  | error | corner => exact ⟨nofun, nofun⟩

theorem error_iff {x : Res α} {y : Res β} (h : Sim R A x y) {e : Err}
    (hA : A ∨ (e ≠ .assertionError ∧ e ≠ .runtimeError)) : x = .error e ↔ y = .error e := by
  cases h with
  | ok _ => exact ⟨nofun, nofun⟩
  | error => exact ⟨fun h => by cases h; rfl, fun h => by cases h; rfl⟩
  | corner h1 =>
    rcases hA with hA | ⟨ha, hr⟩
    · exact absurd hA h1
    · exact ⟨fun h => by cases h; exact absurd rfl ha, fun h => by cases h; exact absurd rfl hr⟩

theorem mono {x : Res α} {y : Res β} (hA : A → A') (h : Sim R A' x y) : Sim R A x y := by
  cases h with
  | ok h => exact .ok h
  | error e => exact .error e
  | corner h => exact .corner fun a => h (hA a)

theorem bind {x : Res α} {y : Res β} {f : α → Res α'} {g : β → Res β'} (hxy : Sim R A x y)
    (hfg : ∀ a b, x = .ok a → y = .ok b → R a b → Sim R' A (f a) (g b)) : Sim R' A (x >>= f) (y >>= g) := by
  cases hxy with
  | ok h => exact hfg _ _ rfl rfl h
  | error e => exact .error e
  | corner h => exact .corner h

theorem bind_same (x : Res γ) {f : γ → Res α} {g : γ → Res β} (hfg : ∀ c, x = .ok c → Sim R A (f c) (g c)) :
    Sim R A (x >>= f) (x >>= g) := by
  cases x with
  | ok c => exact hfg c rfl
  | error e => exact .error e

theorem ite_same (c : Prop) [Decidable c] {x x' : Res α} {y y' : Res β}
    (ht : c → Sim R A x y) (he : ¬c → Sim R A x' y') : Sim R A (if c then x else x') (if c then y else y') := by
  split
  · exact ht ‹_›
  · exact he ‹_›

/-- the shape is explained at `WhenOk.guard` -/
theorem guard {c : Prop} [Decidable c] {e : Err} {f : PUnit → Res α} {g : PUnit → Res β}
    (h : ¬c → Sim R A (f ()) (g ())) :
    Sim R A (if c then MonadExcept.throw e >>= f else f ()) (if c then MonadExcept.throw e >>= g else g ()) :=
  ite_same _ (fun _ => error e) h

end Sim

theorem sim_mapM {ι α β} {R : α → β → Prop} {A : Prop} (f : ι → Res α) (g : ι → Res β)
    (hfg : ∀ i, Sim R A (f i) (g i)) : ∀ l : List ι, Sim (List.Forall₂ R) A (l.mapM f) (l.mapM g)
  | [] => by rw [List.mapM_nil]; exact .ok .nil
  | i :: l => by
    rw [List.mapM_cons, List.mapM_cons]
    exact (hfg i).bind fun a b _ _ hab => (sim_mapM f g hfg l).bind fun as bs _ _ h => .ok (.cons hab h)

end LazyDs
