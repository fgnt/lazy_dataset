import LazyDs.Spec.Ref
import LazyDs.Lemmas.StreamAlg
import LazyDs.Lemmas.PyIndex
import LazyDs.Lemmas.ListAux
import LazyDs.Lemmas.Forall2
import LazyDs.Lemmas.Assoc
/-
  The refinement relation `Rel` between a model dataset (`DS`, index walks and all) and a reference
  dataset (`RefDS`, eager list data), with the refinement lemmas for the two sources and for the stages
  whose proof is short (map, lazy filter, unbatch, slice).
-/
namespace LazyDs

section indexing
open Cache (normIdx normIdx_none_iff normIdx_lt)

theorem _root_.List.Forall₂.pyIndex {α β : Type} {R : α → β → Prop} {l₁ : List α} {l₂ : List β}
    (h : List.Forall₂ R l₁ l₂) (i : Int) :
    (pyIndex l₁ i = .error .indexError ∧ pyIndex l₂ i = .error .indexError) ∨
    ∃ a b, pyIndex l₁ i = .ok a ∧ pyIndex l₂ i = .ok b ∧ R a b := by
  cases hn : normIdx l₁.length i with
  | none => exact .inl ⟨pyIndex_none rfl hn, pyIndex_none h.length_eq.symm hn⟩
  | some j =>
    rw [pyIndex_some rfl hn, pyIndex_some h.length_eq.symm hn]
    rcases h.getElem? j with ⟨h1, _⟩ | ⟨a, b, h1, h2, hab⟩
    · exact absurd (List.getElem?_eq_none_iff.1 h1) (Nat.not_le.2 (normIdx_lt hn))
    · exact .inr ⟨a, b, (pyIndex_nat_ok_iff l₁ j a).2 h1, (pyIndex_nat_ok_iff l₂ j b).2 h2, hab⟩

theorem outAt_map_bind (f : Val → Res Val) (l : List (Res Val)) (i : Int) :
    outAt (l.map (· >>= f)) i = (outAt l i >>= f) := by
  unfold outAt
  rw [pyIndex_map]
  cases pyIndex l i <;> rfl

section
variable {L : List (Res Val)} {n : Nat} {i : Int}

theorem outAt_none (hl : L.length = n) (h : normIdx n i = none) : outAt L i = .error .indexError := by
  unfold outAt; rw [pyIndex_none hl h]

theorem outAt_some (hl : L.length = n) {j : Nat} (h : normIdx n i = some j) :
    outAt L i = outAt L (j : Int) := by
  unfold outAt; rw [pyIndex_some hl h]

theorem outAt_nat (l : List (Res Val)) (j : Nat) :
    outAt l (j : Int) = match l[j]? with | some o => o | none => .error .indexError := by
  unfold outAt; rw [pyIndex_nat]; cases l[j]? <;> rfl

theorem outAt_getElem? {l : List (Res Val)} {j : Nat} {o : Res Val} (h : l[j]? = some o) :
    outAt l (j : Int) = o := by
  rw [outAt_nat, h]

theorem outAt_lt (l : List (Res Val)) (j : Nat) (h : j < l.length) : outAt l (j : Int) = l[j] :=
  outAt_getElem? (List.getElem?_eq_getElem h)

theorem outAt_ge (l : List (Res Val)) (i : Int) (h : (l.length : Int) ≤ i) : outAt l i = .error .indexError :=
  outAt_none rfl (normIdx_none_iff.2 (.inr h))

theorem outAt_lt_neg (l : List (Res Val)) (i : Int) (h : i < -(l.length : Int)) : outAt l i = .error .indexError :=
  outAt_none rfl (normIdx_none_iff.2 (.inl h))

theorem outAt_wrap (l : List (Res Val)) (i : Int) (h0 : 0 ≤ i) (h1 : i < l.length) :
    outAt l (i - l.length) = outAt l i := by
  unfold outAt; rw [pyIndex_wrap l i h0 h1]

/-- `__getitem__` of the classes that normalise a negative index with `len` and then walk
    (`ConcatenateDataset`, `BatchDataset`, `CacheDataset`): it is enough to know the walk at natural
    numbers -/
theorem normWalk_eq {walk : Int → Res Val} (hw : ∀ j : Nat, walk j = outAt L j) (i : Int) :
    (if i < 0 then if i + (L.length : Int) < 0 then .error .indexError else walk (i + L.length)
      else walk i) = outAt L i := by
  rcases Int.lt_or_le i 0 with h | h
  · rw [if_pos h]
    by_cases h1 : i + (L.length : Int) < 0
    · rw [if_pos h1, outAt_lt_neg L i (by omega)]
    ·
      obtain ⟨k, hk⟩ := Int.eq_ofNat_of_zero_le (Int.not_lt.1 h1)
      have hn : normIdx L.length i = some (i + L.length).toNat :=
        (Cache.normIdx_of_neg h).trans (if_pos (Int.add_nonneg_iff_neg_le.1 (Int.not_lt.1 h1)))
      rw [if_neg h1, outAt_some rfl hn, hk, hw, Int.toNat_natCast]
  · obtain ⟨k, rfl⟩ := Int.eq_ofNat_of_zero_le h
    rw [if_neg (Int.not_lt.2 h), hw]

theorem outAt_tabulate {G : Int → Res Val}
    (hnone : ∀ i, normIdx n i = none → G i = .error .indexError)
    (hsome : ∀ i j, normIdx n i = some j → G i = G j) (i : Int) :
    outAt ((List.range n).map fun (j : Nat) => G j) i = G i := by
  have hlen : ((List.range n).map fun (j : Nat) => G j).length = n := by simp
  cases h : normIdx n i with
  | none => rw [outAt_none hlen h, hnone i h]
  | some j =>
    rw [outAt_some hlen h, hsome i j h, outAt_lt _ j (by rw [hlen]; exact normIdx_lt h)]
    simp only [List.getElem_map, List.getElem_range]

end
end indexing

/-! ### key tables: first position of a key, duplicates -/

theorem findIdx?_beq_of_mem {ks : List String} {k : String} (hmem : k ∈ ks) :
    ∃ (j : Nat) (hj : j < ks.length), ks.findIdx? (· == k) = some j ∧ ks[j] = k := by
  cases hf : ks.findIdx? (· == k) with
  | none => exact absurd (beq_self_eq_true k) (Bool.eq_false_iff.1 (List.findIdx?_eq_none_iff.1 hf k hmem))
  | some j =>
    obtain ⟨hj, hp, _⟩ := List.findIdx?_eq_some_iff_getElem.1 hf
    exact ⟨j, hj, rfl, eq_of_beq hp⟩

theorem hasDup_eq_false_iff (ks : List String) : hasDup ks = false ↔ ks.Nodup := by
  induction ks with
  | nil => simp [hasDup]
  | cons k ks ih =>
    simp only [hasDup, Bool.or_eq_false_iff, List.nodup_cons, ih]
    constructor
    · rintro ⟨h1, h2⟩
      refine ⟨?_, h2⟩
      intro hm
      rw [List.contains_iff_mem.mpr hm] at h1
      cases h1
    · rintro ⟨h1, h2⟩
      refine ⟨?_, h2⟩
      cases hc : ks.contains k with
      | false => rfl
      | true => exact absurd (List.contains_iff_mem.mp hc) h1

/-! ### the refinement relation

  `getKey` speaks of the keys that the table lists and of no other: `SliceDataset.__getitem__(str)`
  forwards a key to its input without consulting the selection (known defect F15), so the lazy code
  may answer for a key that its own `keys()` does not list.  What holds for unlisted keys, stage by
  stage, is in `Lemmas/AbsentKey.lean`. -/

/-- `d` (the model of the lazy code) refines `r` (the eager reference data) -/
structure Rel (d : DS) (r : RefDS) : Prop where
  indexable : d.indexable = r.indexable
  len : d.len = r.len
  keys : d.keys = r.keys
  iter : d.iter = r.stream
  iterK : d.iterK = r.kstream
  /-- integer indexing is Python list indexing of the outcome list -/
  idx : r.indexable = true → r.len = .ok r.outs.length ∧ ∀ i, d.getInt i = outAt r.outs i
  /-- in-range outcomes are never `IndexError` (user functions do not raise it: hypothesis of the theorems) -/
  noIdxErr : r.indexable = true → ∀ o ∈ r.outs, o ≠ .error .indexError
  /-- a key table has one key per position -/
  keysLen : r.indexable = true → ∀ ks, r.keys = .ok ks → ks.length = r.outs.length
  /-- looking up the key listed at position `j` gives the example at position `j` -/
  getKey : r.indexable = true → ∀ ks, r.keys = .ok ks → ∀ (j : Nat) (h : j < ks.length),
    d.getKey (ks[j]) = outAt r.outs (j : Int)

theorem Rel.of_not_indexable {d : DS} {r : RefDS} (hni : r.indexable = false)
    (indexable : d.indexable = r.indexable) (len : d.len = r.len) (keys : d.keys = r.keys)
    (iter : d.iter = r.stream) (iterK : d.iterK = r.kstream) : Rel d r :=
  { indexable, len, keys, iter, iterK
    idx := fun hi => nomatch hni.symm.trans hi
    noIdxErr := fun hi => nomatch hni.symm.trans hi
    keysLen := fun hi => nomatch hni.symm.trans hi
    getKey := fun hi => nomatch hni.symm.trans hi }

theorem Rel.ref_indexable {d : DS} {r : RefDS} (h : Rel d r) (hi : d.indexable = true) : r.indexable = true :=
  h.indexable ▸ hi

theorem Rel.getInt_len {d : DS} {r : RefDS} (h : Rel d r) (hi : d.indexable = true) {n : Nat}
    (hn : d.len = .ok n) : n = r.outs.length ∧ ∀ i, d.getInt i = outAt r.outs i := by
  obtain ⟨hl, hg⟩ := h.idx (h.ref_indexable hi)
  rw [h.len, hl] at hn
  cases hn
  exact ⟨rfl, hg⟩

theorem rel_listSrc (xs : List Val) : Rel (listSrc xs) (Ref.listSrc xs) where
  indexable := rfl
  len := rfl
  keys := rfl
  iter := rfl
  iterK := rfl
  idx := by
    intro _
    refine ⟨by simp [Ref.listSrc], ?_⟩
    intro i
    simp only [listSrc, Ref.listSrc, outAt, pyIndex_map]
    cases pyIndex xs i <;> rfl
  noIdxErr := by
    intro _ o ho
    simp only [Ref.listSrc, List.mem_map] at ho
    obtain ⟨v, _, rfl⟩ := ho
    intro h; cases h
  keysLen := by intro _ ks h; cases h
  getKey := by intro _ ks h; cases h

theorem dictLookup_eq (kvs : List (String × Val)) (k : String) :
    dictLookup kvs k = (Assoc.lookup kvs k).elim (.error .keyError) .ok := by
  rw [dictLookup, Assoc.lookup]; cases kvs.find? (·.1 == k) <;> rfl

theorem dictLookup_getElem (kvs : List (String × Val)) (hn : (kvs.map (·.1)).Nodup) (j : Nat) (h : j < kvs.length) :
    dictLookup kvs (kvs[j].1) = .ok kvs[j].2 := by
  rw [dictLookup_eq, Assoc.lookup_of_mem hn (k := kvs[j].1) (v := kvs[j].2) (List.getElem_mem h)]; rfl

theorem rel_dictSrc (kvs : List (String × Val)) (hn : (kvs.map (·.1)).Nodup) : Rel (dictSrc kvs) (Ref.dictSrc kvs) where
  indexable := rfl
  len := rfl
  keys := rfl
  iter := rfl
  iterK := rfl
  idx := by
    intro _
    refine ⟨by simp [Ref.dictSrc], ?_⟩
    intro i
    simp only [dictSrc, Ref.dictSrc, outAt, pyIndex_map]
    cases pyIndex kvs i <;> rfl
  noIdxErr := by
    intro _ o ho
    simp only [Ref.dictSrc, List.mem_map] at ho
    obtain ⟨v, _, rfl⟩ := ho
    intro h; cases h
  keysLen := by
    intro _ ks h
    simp only [Ref.dictSrc] at h ⊢
    injection h with h
    subst h
    simp
  getKey := by
    intro _ ks h j hj
    injection h with h
    subst h
    have hj' : j < kvs.length := by simpa using hj
    simp only [dictSrc, Ref.dictSrc, List.getElem_map]
    rw [dictLookup_getElem kvs hn j hj', outAt_lt _ j (by simpa using hj')]
    simp

theorem bind_noIdx (f : Val → Res Val) (hf : ∀ v, f v ≠ .error .indexError) (o : Res Val)
    (ho : o ≠ .error .indexError) : (o >>= f) ≠ .error .indexError := by
  cases o with
  | ok v => exact hf v
  | error e => exact ho

theorem rel_map (f : Val → Res Val) (hf : ∀ v, f v ≠ .error .indexError) {d : DS} {r : RefDS}
    (h : Rel d r) : Rel (mapDS f d) (Ref.map f r) where
  indexable := h.indexable
  len := h.len
  keys := h.keys
  iter := by simp only [mapDS, Ref.map, h.iter]
  iterK := by simp only [mapDS, Ref.map, h.iterK]
  idx := by
    intro hi
    obtain ⟨hl, hg⟩ := h.idx hi
    refine ⟨by simp only [Ref.map, hl, List.length_map], ?_⟩
    intro i
    simp only [mapDS, Ref.map]
    rw [hg i, outAt_map_bind]
  noIdxErr := by
    intro hi o ho
    simp only [Ref.map, List.mem_map] at ho
    obtain ⟨o', ho', rfl⟩ := ho
    exact bind_noIdx f hf o' (h.noIdxErr hi o' ho')
  keysLen := by
    intro hi ks hk
    simp only [Ref.map, List.length_map] at hk ⊢
    exact h.keysLen hi ks hk
  getKey := by
    intro hi ks hk j hj
    simp only [mapDS, Ref.map] at hk ⊢
    rw [h.getKey hi ks hk j hj, outAt_map_bind]

/-! ### lazy filter, unbatch: nothing positional, iteration is the same list operation -/

theorem rel_filter (f : Val → Res Bool) {d : DS} {r : RefDS} (h : Rel d r) :
    Rel (filterDS f d) (Ref.filter f r) :=
  .of_not_indexable rfl rfl rfl rfl (by simp only [filterDS, Ref.filter, h.iter])
    (by simp only [filterDS, Ref.filter, h.iterK])

theorem rel_unbatch {d : DS} {r : RefDS} (h : Rel d r) : Rel (unbatchDS d) (Ref.unbatch r) :=
  .of_not_indexable rfl rfl rfl rfl (by simp only [unbatchDS, Ref.unbatch, h.iter]) rfl

theorem rel_slice {d : DS} {r : RefDS} (h : Rel d r) (hi : r.indexable = true) (sel : List Nat)
    (hsel : ∀ j ∈ sel, j < r.outs.length) : Rel (sliceDS sel d) (Ref.slice sel r) := by
  obtain ⟨hl, hg⟩ := h.idx hi
  have hfun : (fun (j : Nat) => d.getInt (j : Int)) = (fun (j : Nat) => outAt r.outs (j : Int)) := by
    funext j; exact hg j
  refine
    { indexable := rfl, len := rfl, keys := ?_, iter := ?_, iterK := ?_, idx := ?_, noIdxErr := ?_,
      keysLen := ?_, getKey := ?_ }
  · simp only [sliceDS, sliceKeys, Ref.slice, Ref.selectKeys, h.keys]
  · simp only [sliceDS, sliceOuts, Ref.slice, hfun]
  · simp only [sliceDS, sliceIterK, Ref.slice, h.keys]
    cases r.keys with
    | error e => rfl
    | ok ks =>
      simp only
      congr 1
      apply List.map_congr_left
      intro j _
      rw [hg j]
  · intro _
    refine ⟨by simp [Ref.slice], ?_⟩
    intro i
    simp only [sliceDS, Ref.slice, outAt, pyIndex_map]
    cases pyIndex sel i with
    | error e => rfl
    | ok j => simp only [Except.map, bind]; exact hg j
  · intro _ o ho
    simp only [Ref.slice, List.mem_map] at ho
    obtain ⟨j, hj, rfl⟩ := ho
    rw [outAt_lt r.outs j (hsel j hj)]
    exact h.noIdxErr hi _ (List.getElem_mem _)
  · intro _ ks hk
    simp only [Ref.slice, List.length_map] at hk ⊢
    cases hrk : r.keys with
    | error e => rw [hrk] at hk; cases hk
    | ok ks0 =>
      rw [hrk] at hk
      exact List.mapM_ok_length hk
  · -- key `t` of the slice is key `sel[t]` of `r` (`mapM_ok_getElem`), where `h.getKey` gives `r.outs[sel[t]]`
    intro _ ks hk t ht
    simp only [Ref.slice] at hk
    cases hrk : r.keys with
    | error e => rw [hrk] at hk; cases hk
    | ok ks0 =>
      rw [hrk] at hk
      have ht' : t < sel.length := by rw [← List.mapM_ok_length hk]; exact ht
      have hks0 : ks0.length = r.outs.length := h.keysLen hi ks0 hrk
      have hlt : sel[t] < ks0.length := by rw [hks0]; exact hsel _ (List.getElem_mem _)
      have := List.mapM_ok_getElem hk ht' ht
      rw [pyIndex_lt ks0 sel[t] hlt] at this
      injection this with this
      simp only [sliceDS, Ref.slice]
      rw [← this, h.getKey hi ks0 hrk sel[t] hlt]
      rw [outAt_lt _ t (by simpa using ht')]
      simp

end LazyDs
