import LazyDs.Lemmas.StpPoints
import LazyDs.Lemmas.Machine
/-
  `single_thread_prefetch` (`Conc/Stp.lean`): the transition relation `Next`, one constructor per branch of
  `step`; the inductive invariant and its preservation; deadlock freedom as a fact about every state that
  satisfies the invariant; the two termination measures.  CORE LEAN ONLY.
-/
namespace LazyDs.Stp

variable {α ε : Type}

/-! ## Reachability -/

def Reachable (b : Nat) (src₀ : List α) (ending : Option ε) (s : St α ε) : Prop :=
  ∃ sched, run (init b src₀ ending) sched = some s

theorem isSched : IsSched (step (α := α) (ε := ε)) run :=
  ⟨fun _ => rfl, fun s t _ => by rw [run]; cases step s t <;> rfl⟩

/-! ## The transitions, one constructor per branch of `step` -/

inductive Next (s : St α ε) : Tid → St α ε → Prop where
  | w0 (hw : s.w = .w0) :
      Next s .worker { s with w := if s.shutdown then .wDone else .wNext }
  | wNextItem (x : α) (rest : List α) (hw : s.w = .wNext) (hsrc : s.src = x :: rest) :
      Next s .worker { s with src := rest, pulled := s.pulled + 1, w := .wChk1 x }
  | wNextStop (hw : s.w = .wNext) (hsrc : s.src = []) (he : s.ending = none) :
      Next s .worker { s with w := .wFin }
  | wNextRaise (e : ε) (hw : s.w = .wNext) (hsrc : s.src = []) (he : s.ending = some e) :
      Next s .worker { s with excInfo := some e, w := .wFin }
  | wChk1 (x : α) (hw : s.w = .wChk1 x) :
      Next s .worker { s with w := if s.shutdown then .wFin else .wPut x }
  | wPut (x : α) (hw : s.w = .wPut x) (hq : s.q.length < s.b) :
      Next s .worker { s with q := s.q ++ [.item x], w := .wChk2 }
  | wChk2 (hw : s.w = .wChk2) :
      Next s .worker { s with w := if s.shutdown then .wFin else .wNext }
  | wFin (hw : s.w = .wFin) :
      Next s .worker { s with w := if s.shutdown then .wDone else .wPutS }
  | wPutS (hw : s.w = .wPutS) (hq : s.q.length < s.b) :
      Next s .worker { s with q := s.q ++ [.sentinel], w := .wDone }
  | cGetItem (x : α) (rest : List (QItem α)) (hc : s.c = .cGet) (hq : s.q = .item x :: rest) :
      Next s .consumer { s with q := rest, c := .cHave x }
  | cGetSentinel (rest : List (QItem α)) (hc : s.c = .cGet) (hq : s.q = .sentinel :: rest) :
      Next s .consumer { s with q := rest, c := .cFin }
  | cHave (x : α) (hc : s.c = .cHave x) :
      Next s .consumer { s with delivered := s.delivered ++ [x], c := .cYield }
  | cFin (hc : s.c = .cFin) :
      Next s .consumer { s with shutdown := true, c := .cDrain }
  | cDrainEmpty (hc : s.c = .cDrain) (hq : s.q = []) :
      Next s .consumer { s with c := .cJoin }
  | cDrainPop (y : QItem α) (rest : List (QItem α)) (hc : s.c = .cDrain) (hq : s.q = y :: rest) :
      Next s .consumer { s with q := rest }
  | cJoin (hc : s.c = .cJoin) (hw : s.w = .wDone) :
      Next s .consumer { s with c := .cAfter }
  | cAfter (hc : s.c = .cAfter) :
      Next s .consumer { s with raised := if s.closed then none else s.excInfo, c := .cDone }
  | resume (hc : s.c = .cYield) : Next s .resume { s with c := .cGet }
  | close (hc : s.c = .cYield) : Next s .close { s with closed := true, c := .cFin }

theorem Next.of_step {s s' : St α ε} {t : Tid} (h : step s t = some s') : Next s t s' := by
  unfold step at h
  split at h
  · split at h
    · cases h; exact .w0 ‹_›
    · split at h
      · cases h; exact .wNextItem _ _ ‹_› ‹_›
      · split at h <;> cases h
        · exact .wNextStop ‹_› ‹_› ‹_›
        · exact .wNextRaise _ ‹_› ‹_› ‹_›
    · cases h; exact .wChk1 _ ‹_›
    · split at h <;> cases h
      exact .wPut _ ‹_› ‹_›
    · cases h; exact .wChk2 ‹_›
    · cases h; exact .wFin ‹_›
    · split at h <;> cases h
      exact .wPutS ‹_› ‹_›
    · cases h
  · split at h
    · split at h <;> cases h
      · exact .cGetItem _ _ ‹_› ‹_›
      · exact .cGetSentinel _ ‹_› ‹_›
    · cases h; exact .cHave _ ‹_›
    · cases h
    · cases h; exact .cFin ‹_›
    · split at h <;> cases h
      · exact .cDrainEmpty ‹_› ‹_›
      · exact .cDrainPop _ _ ‹_› ‹_›
    · split at h <;> cases h
      exact .cJoin ‹_› ‹_›
    · cases h; exact .cAfter ‹_›
    · cases h
  · split at h <;> cases h
    exact .resume ‹_›
  · split at h <;> cases h
    exact .close ‹_›

/-! ## The inductive invariant -/

/-- The inductive invariant, relative to the parameters of `init`.  `okq`, `sent`, `dead`, `fifo`
    and `past` describe the queue protocol and are guarded by `shutdown = false`: once the flag is
    set the consumer's drain loop throws queue entries away, and of the bookkeeping only `pre`,
    `len` and the bound `pullS` survive. -/
structure Inv (b : Nat) (src₀ : List α) (ending : Option ε) (s : St α ε) : Prop where
  /-- `b` and `ending` are parameters: no step writes them -/
  sb : s.b = b
  se : s.ending = ending
  /-- the queue never exceeds its bound -/
  qb : s.q.length ≤ b
  /-- the flag is set exactly from `cDrain` on -/
  shut : s.shutdown = cShut s.c
  /-- at `join()` the queue was seen empty and the worker can put at most once more -/
  join : cJoinB s.c = true → s.q.length + rp s.w ≤ 1
  /-- `join()` returned: the worker has exited -/
  after : cPost s.c = true → s.w = .wDone
  /-- before shutdown the sentinel occurs at most once and only last -/
  okq : s.shutdown = false → okQ s.q = true
  /-- before shutdown a sentinel in the queue means the worker is gone -/
  sent : s.shutdown = false → hasS s.q = true → s.w = .wDone
  /-- before shutdown a dead worker left a sentinel (or the consumer is already leaving) -/
  dead : s.shutdown = false → s.w = .wDone → hasS s.q = true ∨ cLeft s.c = true
  /-- nothing lost, nothing duplicated, order kept -/
  fifo : s.shutdown = false →
    s.delivered ++ (handC s.c ++ (items s.q ++ (handW s.w ++ s.src))) = src₀
  /-- what is left of `fifo` after shutdown: nothing is delivered any more -/
  pre : s.delivered <+: src₀
  /-- a pull moves one item out of `src`; the worker may still pull once after shutdown -/
  len : s.pulled + s.src.length = src₀.length
  /-- `exc_info` is written only where the source raises, with the source's exception -/
  exc : s.excInfo = none ∨ s.excInfo = ending
  /-- before shutdown, once the loop is over the source is exhausted and its ending is recorded -/
  past : s.shutdown = false → wPast s.w = true → s.excInfo = ending ∧ s.src = []
  /-- leaving without `close()` means the sentinel was consumed -/
  norm : s.closed = false → cLeft s.c = true →
    s.w = .wDone ∧ s.delivered = src₀ ∧ s.excInfo = ending
  /-- nothing is raised before the end; at the end it is `exc_info`, unless closed -/
  rais : s.raised = raisedAt s.c s.closed s.excInfo
  /-- after shutdown the worker pulls at most once more, and only from `wNext` -/
  pullS : s.shutdown = true → s.pulled + nx s.w ≤ s.delivered.length + b + 2

theorem inv_init {b : Nat} {src₀ : List α} {ending : Option ε} :
    Inv b src₀ ending (init b src₀ ending) := by
  constructor <;> simp [init]

theorem cJoinB_cShut (c : CPc α) : cJoinB c = true → cShut c = true := by cases c <;> simp

section Step
variable {b : Nat} {src₀ : List α} {ending : Option ε} {s s' : St α ε}

/-- A move of the worker's program point alone, from a live point.  Before shutdown it must keep
    the item in hand and may pass the end of the loop only with the source exhausted and its ending
    recorded; after shutdown it must neither arm a `put` nor return to `wNext`. -/
theorem Inv.setW (h : Inv b src₀ ending s) {w' : WPc α} (hlive : s.w ≠ .wDone)
    (hN : s.shutdown = false → w' ≠ .wDone ∧ handW w' = handW s.w ∧
      (wPast w' = true → s.excInfo = ending ∧ s.src = []))
    (hS : s.shutdown = true → rp w' ≤ rp s.w ∧ nx w' ≤ nx s.w) :
    Inv b src₀ ending { s with w := w' } :=
  { h with
    join := fun hj =>
      have hsh : s.shutdown = true := h.shut.trans (cJoinB_cShut _ hj)
      Nat.le_trans (Nat.add_le_add_left (hS hsh).1 _) (h.join hj)
    after := fun hp => absurd (h.after hp) hlive
    sent := fun hs hq => absurd (h.sent hs hq) hlive
    dead := fun hs hd => absurd hd (hN hs).1
    fifo := fun hs => (hN hs).2.1 ▸ h.fifo hs
    past := fun hs => (hN hs).2.2
    norm := fun hc hl => absurd (h.norm hc hl).1 hlive
    pullS := fun hs => Nat.le_trans (Nat.add_le_add_left (hS hs).2 _) (h.pullS hs) }

theorem raisedAt_of_cPost {c : CPc α} (hc : cPost c = false) (cl : Bool) (ex : Option ε) :
    raisedAt c cl ex = none := by cases c <;> simp at hc ⊢

theorem Inv.pull (h : Inv b src₀ ending s) (hs : s.shutdown = false) :
    s.pulled = s.delivered.length + (handC s.c).length + (items s.q).length + (handW s.w).length := by
  have h1 := congrArg List.length (h.fifo hs)
  have h2 := h.len
  simp only [List.length_append] at h1
  omega

/-- The successor is `{ s with … }`, so a conjunct that mentions none of the changed fields has
    literally the same type as before: `{ h with … }` carries it over, and each case lists exactly
    the conjuncts that mention a changed field. -/
theorem Inv.next {t : Tid} (h : Inv b src₀ ending s) (hn : Next s t s') : Inv b src₀ ending s' := by
  cases hn with
  | w0 hw | wChk1 _ hw | wChk2 hw =>
    exact h.setW (by simp [hw]) (fun hs => by simp [hs, hw]) (fun hs => by simp [hs, hw])
  | wFin hw =>
    exact h.setW (by simp [hw]) (fun hs => ⟨by simp [hs], by simp [hs, hw], fun _ => h.past hs (by simp [hw])⟩)
      (fun hs => by simp [hs, hw])
  | wNextStop hw hsrc he =>
    have hex : s.excInfo = ending := h.exc.elim (fun h0 => h0.trans (he.symm.trans h.se)) id
    exact h.setW (by simp [hw]) (fun _ => ⟨by simp, by simp [hw], fun _ => ⟨hex, hsrc⟩⟩)
      (fun _ => by simp [hw])
  | wNextRaise e hw hsrc he =>
    have hlive : s.w ≠ .wDone := by simp [hw]
    have hex : some e = ending := he.symm.trans h.se
    have hpost : cPost s.c = false := by
      cases hp : cPost s.c
      · rfl
      · exact absurd (h.after hp) hlive
    exact { h with
      join := fun hj => by simpa [hw] using h.join hj
      after := fun hp => absurd (h.after hp) hlive
      sent := fun hs hq => absurd (h.sent hs hq) hlive
      dead := fun _ hd => nomatch hd
      fifo := fun hs => by simpa [hw] using h.fifo hs
      exc := .inr hex
      past := fun _ _ => ⟨hex, hsrc⟩
      norm := fun hc hl => absurd (h.norm hc hl).1 hlive
      rais := by rw [h.rais, raisedAt_of_cPost hpost, raisedAt_of_cPost hpost]
      pullS := fun hs => by have := h.pullS hs; simp [hw] at this; simp; omega }
  | wNextItem x rest hw hsrc =>
    have hlive : s.w ≠ .wDone := by simp [hw]
    exact { h with
      join := fun hj => by simpa [hw] using h.join hj
      after := fun hp => absurd (h.after hp) hlive
      sent := fun hs hq => absurd (h.sent hs hq) hlive
      dead := fun _ hd => nomatch hd
      fifo := fun hs => by simpa [hw, hsrc] using h.fifo hs
      len := by have := h.len; simp [hsrc] at this; simp; omega
      past := fun _ hp => nomatch hp
      norm := fun hc hl => absurd (h.norm hc hl).1 hlive
      pullS := fun hs => by have := h.pullS hs; simp [hw] at this; simp; omega }
  | wPut x hw hq =>
    have hlive : s.w ≠ .wDone := by simp [hw]
    have hqb : s.q.length < b := h.sb ▸ hq
    exact { h with
      qb := by simp; omega
      join := fun hj => by have := h.join hj; simp [hw] at this ⊢; omega
      after := fun hp => absurd (h.after hp) hlive
      okq := fun hs => okQ_append _ _ (by
        cases hq : hasS s.q
        · rfl
        · exact absurd (h.sent hs hq) hlive)
      sent := fun hs hq => by simp at hq; exact absurd (h.sent hs hq) hlive
      dead := fun _ hd => nomatch hd
      fifo := fun hs => by simpa [hw] using h.fifo hs
      past := fun _ hp => nomatch hp
      norm := fun hc hl => absurd (h.norm hc hl).1 hlive
      pullS := fun hs => by simpa [hw] using h.pullS hs }
  | wPutS hw hq =>
    have hlive : s.w ≠ .wDone := by simp [hw]
    have hqb : s.q.length < b := h.sb ▸ hq
    exact { h with
      qb := by simp; omega
      join := fun hj => by have := h.join hj; simp [hw] at this ⊢; omega
      after := fun _ => rfl
      okq := fun hs => okQ_append _ _ (by
        cases hq : hasS s.q
        · rfl
        · exact absurd (h.sent hs hq) hlive)
      sent := fun _ _ => rfl
      dead := fun _ _ => .inl (hasS_append_sentinel _)
      fifo := fun hs => by simpa [hw] using h.fifo hs
      past := fun hs _ => h.past hs (by simp [hw])
      norm := fun hc hl => absurd (h.norm hc hl).1 hlive
      pullS := fun hs => by simpa [hw] using h.pullS hs }
  | cGetItem x rest hc hq =>
    have hs0 : s.shutdown = false := h.shut.trans (congrArg cShut hc)
    exact { h with
      qb := Nat.le_of_succ_le (by simpa [hq] using h.qb)
      shut := hs0
      join := fun hj => nomatch hj
      after := fun hp => nomatch hp
      okq := fun hs => by simpa [hq] using h.okq hs
      sent := fun hs hr => h.sent hs (by simpa [hq] using hr)
      dead := fun hs hd => by simpa [hq, hc] using h.dead hs hd
      fifo := fun hs => by simpa [hq, hc] using h.fifo hs
      norm := fun _ hl => nomatch hl
      rais := by simpa [hc] using h.rais }
  | cGetSentinel rest hc hq =>
    have hs0 : s.shutdown = false := h.shut.trans (congrArg cShut hc)
    have hwd : s.w = .wDone := h.sent hs0 (by simp [hq])
    have hrest : rest = [] := by simpa [hq] using h.okq hs0
    have hp := h.past hs0 (by simp [hwd])
    exact { h with
      qb := by simp [hrest]
      shut := hs0
      join := fun hj => nomatch hj
      after := fun hp => nomatch hp
      okq := fun _ => by simp [hrest]
      sent := fun _ _ => hwd
      dead := fun _ _ => .inr rfl
      fifo := fun hs => by simpa [hq, hc] using h.fifo hs
      -- the one step where `norm` becomes non-vacuous: the sentinel was last (`hrest`), the worker is
      -- done and the source is empty (`hp`), so `fifo` collapses to `delivered = src₀`
      norm := fun _ _ => ⟨hwd, by simpa [hc, hq, hrest, hwd, hp.2] using h.fifo hs0, hp.1⟩
      rais := by simpa [hc] using h.rais }
  | cHave x hc =>
    have hs0 : s.shutdown = false := h.shut.trans (congrArg cShut hc)
    exact { h with
      shut := hs0
      join := fun hj => nomatch hj
      after := fun hp => nomatch hp
      dead := fun hs hd => by simpa [hc] using h.dead hs hd
      fifo := fun hs => by simpa [hc] using h.fifo hs
      pre := ⟨items s.q ++ (handW s.w ++ s.src), by simpa [hc] using h.fifo hs0⟩
      norm := fun _ hl => nomatch hl
      rais := by simpa [hc] using h.rais
      pullS := fun hs => nomatch hs0.symm.trans hs }
  | cFin hc =>
    have hs0 : s.shutdown = false := h.shut.trans (congrArg cShut hc)
    exact { h with
      shut := rfl
      join := fun hj => nomatch hj
      after := fun hp => nomatch hp
      okq := fun hs => nomatch hs
      sent := fun hs => nomatch hs
      dead := fun hs => nomatch hs
      fifo := fun hs => nomatch hs
      past := fun hs => nomatch hs
      norm := fun hcl _ => h.norm hcl (by simp [hc])
      rais := by simpa [hc] using h.rais
      pullS := fun _ => by
        have h1 := h.pull hs0
        have h2 := items_length_le s.q
        have h3 := nx_handW s.w
        have h4 := h.qb
        simp [hc] at h1 ⊢
        omega }
  | cDrainEmpty hc hq =>
    have hs1 : s.shutdown = true := h.shut.trans (congrArg cShut hc)
    have hno : ¬ s.shutdown = false := by simp [hs1]
    exact { h with
      shut := hs1
      join := fun _ => by simpa [hq] using rp_le s.w
      after := fun hp => nomatch hp
      dead := fun hs => absurd hs hno
      fifo := fun hs => absurd hs hno
      norm := fun hcl _ => h.norm hcl (by simp [hc])
      rais := by simpa [hc] using h.rais }
  | cDrainPop y rest hc hq =>
    have hs1 : s.shutdown = true := h.shut.trans (congrArg cShut hc)
    have hno : ¬ s.shutdown = false := by simp [hs1]
    exact { h with
      qb := Nat.le_of_succ_le (by simpa [hq] using h.qb)
      join := fun hj => by simp [hc] at hj
      okq := fun hs => absurd hs hno
      sent := fun hs => absurd hs hno
      dead := fun hs => absurd hs hno
      fifo := fun hs => absurd hs hno }
  | cJoin hc hw =>
    have hs1 : s.shutdown = true := h.shut.trans (congrArg cShut hc)
    have hno : ¬ s.shutdown = false := by simp [hs1]
    exact { h with
      shut := hs1
      join := fun hj => nomatch hj
      after := fun _ => hw
      dead := fun hs => absurd hs hno
      fifo := fun hs => absurd hs hno
      norm := fun hcl _ => h.norm hcl (by simp [hc])
      rais := by simpa [hc] using h.rais }
  | cAfter hc =>
    have hs1 : s.shutdown = true := h.shut.trans (congrArg cShut hc)
    have hno : ¬ s.shutdown = false := by simp [hs1]
    exact { h with
      shut := hs1
      join := fun hj => nomatch hj
      after := fun _ => h.after (by simp [hc])
      dead := fun hs => absurd hs hno
      fifo := fun hs => absurd hs hno
      norm := fun hcl _ => h.norm hcl (by simp [hc])
      rais := by simp }
  | resume hc =>
    have hs0 : s.shutdown = false := h.shut.trans (congrArg cShut hc)
    exact { h with
      shut := hs0
      join := fun hj => nomatch hj
      after := fun hp => nomatch hp
      dead := fun hs hd => by simpa [hc] using h.dead hs hd
      fifo := fun hs => by simpa [hc] using h.fifo hs
      norm := fun _ hl => nomatch hl
      rais := by simpa [hc] using h.rais }
  | close hc =>
    have hs0 : s.shutdown = false := h.shut.trans (congrArg cShut hc)
    exact { h with
      shut := hs0
      join := fun hj => nomatch hj
      after := fun hp => nomatch hp
      dead := fun _ _ => .inr rfl
      fifo := fun hs => by simpa [hc] using h.fifo hs
      norm := fun hcl => nomatch hcl
      rais := by simpa [hc] using h.rais }

theorem Inv.step {t : Tid} (h : Inv b src₀ ending s) (hs : step s t = some s') :
    Inv b src₀ ending s' :=
  h.next (.of_step hs)

theorem inv_reachable (h : Reachable b src₀ ending s) : Inv b src₀ ending s := by
  obtain ⟨ts, hr⟩ := h
  exact isSched.inv (fun _ _ _ h hs => h.step hs) inv_init hr

end Step

/-! ## When a thread can move -/

theorem worker_enabled {s : St α ε} (hw : s.w ≠ .wDone) (hq : rp s.w = 1 → s.q.length < s.b) :
    ∃ s', step s .worker = some s' := by
  rw [step]
  cases hw' : s.w with
  | wDone => exact absurd hw' hw
  | wNext => dsimp only; cases s.src <;> cases s.ending <;> exact ⟨_, rfl⟩
  | wPut x | wPutS => dsimp only; rw [if_pos (hq (by rw [hw']; rfl))]; exact ⟨_, rfl⟩
  | _ => exact ⟨_, rfl⟩

theorem consumer_enabled {s : St α ε} (hy : s.c ≠ .cYield) (hd : s.c ≠ .cDone)
    (hg : s.c = .cGet → s.q ≠ []) (hj : s.c = .cJoin → s.w = .wDone) :
    ∃ s', step s .consumer = some s' := by
  rw [step]
  cases hc : s.c with
  | cYield => exact absurd hc hy
  | cDone => exact absurd hc hd
  | cGet =>
    dsimp only
    cases hq : s.q with
    | nil => exact absurd hq (hg hc)
    | cons y rest => cases y <;> exact ⟨_, rfl⟩
  | cDrain => dsimp only; cases s.q <;> exact ⟨_, rfl⟩
  | cJoin => dsimp only; rw [hj hc]; exact ⟨_, rfl⟩
  | _ => exact ⟨_, rfl⟩

/-- Deadlock freedom: where the consumer is blocked (an empty queue at `get()`, or `join()` on a live
    worker) the invariant keeps the worker enabled, by `dead` resp. `join`. -/
theorem Inv.can_move (hI : Inv b src₀ ending s) (hb : 1 ≤ b) (hnt : ¬ terminal s)
    (hy : s.c ≠ .cYield) :
    (∃ s', Stp.step s .worker = some s') ∨ (∃ s', Stp.step s .consumer = some s') := by
  by_cases hg : s.c = .cGet ∧ s.q = []
  · have hs0 : s.shutdown = false := hI.shut.trans (congrArg cShut hg.1)
    refine .inl (worker_enabled (fun hw => ?_) (fun _ => ?_))
    · simpa [hg.1, hg.2] using hI.dead hs0 hw
    · have := hI.sb; simp [hg.2]; omega
  by_cases hj : s.c = .cJoin ∧ s.w ≠ .wDone
  · refine .inl (worker_enabled hj.2 (fun hr => ?_))
    have := hI.join (by simp [hj.1]); have := hI.sb
    omega
  · exact .inr (consumer_enabled hy (fun hc => hnt ⟨hc, hI.after (by simp [hc])⟩)
      (fun hc hq => hg ⟨hc, hq⟩) (fun hc => Classical.not_not.mp fun hw => hj ⟨hc, hw⟩))

/-! ## Termination measures -/

def hold : WPc α → Nat
  | .wChk1 _ => 1
  | .wPut _ => 1
  | _ => 0

def alive : WPc α → Nat
  | .wDone => 0
  | _ => 1

def rW : WPc α → Nat
  | .wDone => 0 | .wPutS => 1 | .wFin => 2 | .wNext => 3
  | .wChk2 => 4 | .wPut _ => 5 | .wChk1 _ => 6 | .w0 => 7

def rC : CPc α → Nat
  | .cDone => 0 | .cAfter => 1 | .cJoin => 2 | .cDrain => 3
  | .cFin => 4 | .cGet => 5 | .cYield => 6 | .cHave _ => 7

def rW2 : WPc α → Nat
  | .wDone => 0 | .wPutS => 1 | .wFin => 2 | .wChk2 => 3
  | .wPut _ => 4 | .wChk1 _ => 5 | .wNext => 6 | .w0 => 7

/-- the entries that may still pass through the queue: the items, and the sentinel of a live worker -/
def tokens (s : St α ε) : Nat := s.src.length + hold s.w + s.q.length + alive s.w

/-- Decreases with every step of every thread and of the environment.  No step raises `tokens`,
    and a consumer step lowers `rC` unless it pops the queue: then `tokens` falls by one and `rC`
    rises by at most 2 (`cGet → cHave`), hence the factor 3.  A worker step keeps `tokens` and
    lowers `rW`, except the pull `wNext → wChk1`, which raises `rW` by 3 and is paid for by the
    term `4 * s.src.length`.  Both steps are tight: `mu` falls by exactly 1. -/
def mu (s : St α ε) : Nat := 3 * tokens s + 4 * s.src.length + rW s.w + rC s.c

/-- Does not mention the source; decreases with every step once `shutdown` is set.  Every test of
    the flag then leaves the loop, so the worker never comes back to `wNext`: `rW2` puts `wNext`
    above the loop body, and every worker step lowers it.  A `put` moves one unit from `rp` into
    `|q|`; the factor 3 is again for the pop `cGet → cHave`. -/
def mu2 (s : St α ε) : Nat := 3 * (s.q.length + rp s.w) + rW2 s.w + rC s.c

theorem mu_next {s s' : St α ε} {t : Tid} (hn : Next s t s') : mu s' < mu s := by
  cases hn <;> simp only [mu, tokens, *] <;> (try split) <;>
    simp +arith only [hold, alive, rW, rC, List.length_cons, List.length_append, List.length_nil]

theorem mu2_next {s s' : St α ε} {t : Tid} (hsh : s.shutdown = true) (hn : Next s t s') :
    mu2 s' < mu2 s := by
  cases hn <;> simp only [mu2, *] <;> simp [rW2, rC] <;> omega

theorem shutdown_next {s s' : St α ε} {t : Tid} (hsh : s.shutdown = true) (hn : Next s t s') :
    s'.shutdown = true := by
  cases hn <;> first | exact hsh | rfl

theorem mu_step {s s' : St α ε} {t : Tid} (hs : step s t = some s') : mu s' < mu s :=
  mu_next (.of_step hs)

theorem mu2_step {s s' : St α ε} {t : Tid} (hsh : s.shutdown = true) (hs : step s t = some s') :
    mu2 s' < mu2 s :=
  mu2_next hsh (.of_step hs)

theorem run_length_le_mu {s s' : St α ε} {sched : List Tid} (hr : run s sched = some s') :
    sched.length + mu s' ≤ mu s :=
  isSched.length_le (P := fun _ => True) (fun _ _ _ _ hs => ⟨trivial, mu_step hs⟩) trivial hr

theorem run_length_le_mu2 {s s' : St α ε} {sched : List Tid} (hsh : s.shutdown = true)
    (hr : run s sched = some s') : sched.length + mu2 s' ≤ mu2 s :=
  isSched.length_le (P := fun s => s.shutdown = true)
    (fun _ _ _ hsh hs => ⟨shutdown_next hsh (.of_step hs), mu2_step hsh hs⟩) hsh hr

end LazyDs.Stp
