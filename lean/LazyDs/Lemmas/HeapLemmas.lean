/-
  Helper lemmas for C09 (aliasing / isolation), about the heap model `LazyDs.Heap`.  CORE LEAN ONLY.

  The centre is `alloc_spec`: `alloc h t` appends cells that only point into their own region, and
  the copy reads back as `t`.  The induction over the nested type `Tree` is `Tree.rec` with the list
  motive "for all members"; a dict is allocated like the list of its values (`allocKvs_eq`).
  On top of it: an access hands out a fresh copy of what its store entry reads as in the present
  heap (`read`, `step_access`), and what an entry reads as does not change along a history as long
  as the region below a watermark `w` is closed under pointers and not mutated (`ClosedBelow`,
  `Frozen`, `isolated_addr`).
-/
import LazyDs.Model.Heap
import LazyDs.Lemmas.Machine
import LazyDs.Lemmas.ListAux
namespace LazyDs.Heap
def Cell.addrs : Cell → List Addr
  | .int _ => []
  | .list xs => xs
  | .dict kvs => kvs.map (·.2)

theorem snapshot_zero (h : Heap) (a : Addr) : snapshot h 0 a = none := rfl

theorem snapshot_succ (h : Heap) (f : Nat) (a : Addr) :
    snapshot h (f + 1) a =
      match h[a]? with
      | none => none
      | some (.int i) => some (.int i)
      | some (.list xs) => (xs.mapM (snapshot h f)).map .list
      | some (.dict kvs) =>
          (kvs.mapM (fun kv => (snapshot h f kv.2).map (fun t => (kv.1, t)))).map .dict := rfl

theorem snapshot_frame (P : Addr → Prop) (h h' : Heap)
    (hcl : ∀ a, P a → ∀ c, h[a]? = some c → ∀ b ∈ c.addrs, P b)
    (heq : ∀ a, P a → h'[a]? = h[a]?) :
    ∀ f a, P a → snapshot h' f a = snapshot h f a := by
  intro f
  induction f with
  | zero => intros; rfl
  | succ f ih =>
    intro a ha
    rw [snapshot_succ, snapshot_succ, heq a ha]
    cases hc : h[a]? with
    | none => rfl
    | some c =>
      cases c with
      | int i => rfl
      | list xs =>
        simp only
        rw [List.mapM_congr_left (l := xs) (fun x hx => ih x (hcl a ha _ hc x hx))]
      | dict kvs =>
        simp only
        rw [List.mapM_congr_left (l := kvs) (fun kv hkv => by
          rw [ih kv.2 (hcl a ha _ hc kv.2 (List.mem_map.2 ⟨kv, hkv, rfl⟩))])]

theorem snapshot_mono_succ (h : Heap) : ∀ f a t, snapshot h f a = some t → snapshot h (f + 1) a = some t := by
  intro f
  induction f with
  | zero => intro a t ht; simp [snapshot_zero] at ht
  | succ f ih =>
    intro a t ht
    rw [snapshot_succ] at ht ⊢
    cases hc : h[a]? with
    | none => simp [hc] at ht
    | some c =>
      rw [hc] at ht
      cases c with
      | int i => exact ht
      | list xs =>
        simp only [Option.map_eq_some_iff] at ht ⊢
        obtain ⟨ys, h1, h2⟩ := ht
        exact ⟨ys, List.mapM_opt_mono (fun x _ y hy => ih x y hy) h1, h2⟩
      | dict kvs =>
        simp only [Option.map_eq_some_iff] at ht ⊢
        obtain ⟨ys, h1, h2⟩ := ht
        refine ⟨ys, List.mapM_opt_mono (fun x _ y hy => ?_) h1, h2⟩
        simp only [Option.map_eq_some_iff] at hy ⊢
        obtain ⟨t', h3, h4⟩ := hy
        exact ⟨t', ih _ _ h3, h4⟩

theorem snapshot_mono {h : Heap} {f f' : Nat} {a : Addr} {t : Tree}
    (ht : snapshot h f a = some t) (hle : f ≤ f') : snapshot h f' a = some t := by
  induction hle with
  | refl => exact ht
  | step _ ih => exact snapshot_mono_succ _ _ _ _ ih

/-- `h'` extends `h` by the cells `new`, which only point into the new region -/
structure Ext (h h' : Heap) (new : List Cell) : Prop where
  eq : h' = h ++ new
  ptr : ∀ c ∈ new, ∀ b ∈ c.addrs, h.length ≤ (b : Nat) ∧ (b : Nat) < h.length + new.length

theorem getElem?_mid (h new rest : List Cell) (c : Cell) :
    (h ++ (new ++ [c]) ++ rest)[h.length + new.length]? = some c := by
  simp

/-! ### `alloc` in projections (no `match` on the pair of the recursive call) -/

theorem alloc_int (h : Heap) (i : Int) : alloc h (.int i) = (h ++ [.int i], h.length) := by
  rw [alloc]

theorem alloc_list (h : Heap) (xs : List Tree) :
    alloc h (.list xs) =
      ((alloc.allocList h xs).1 ++ [.list (alloc.allocList h xs).2], (alloc.allocList h xs).1.length) := by
  rw [alloc]

theorem alloc_dict (h : Heap) (kvs : List (String × Tree)) :
    alloc h (.dict kvs) =
      ((alloc.allocKvs h kvs).1 ++ [.dict (alloc.allocKvs h kvs).2], (alloc.allocKvs h kvs).1.length) := by
  rw [alloc]

theorem allocList_nil (h : Heap) : alloc.allocList h [] = (h, []) := by rw [alloc.allocList]

theorem allocList_cons (h : Heap) (t : Tree) (ts : List Tree) :
    alloc.allocList h (t :: ts) =
      ((alloc.allocList (alloc h t).1 ts).1, (alloc h t).2 :: (alloc.allocList (alloc h t).1 ts).2) := by
  rw [alloc.allocList]

theorem allocKvs_eq (h : Heap) (kvs : List (String × Tree)) :
    alloc.allocKvs h kvs =
      ((alloc.allocList h (kvs.map (·.2))).1,
        (kvs.map (·.1)).zip (alloc.allocList h (kvs.map (·.2))).2) := by
  induction kvs generalizing h with
  | nil => rw [alloc.allocKvs]; rfl
  | cons kv kvs ih =>
    have e : alloc.allocKvs h (kv :: kvs) = ((alloc.allocKvs (alloc h kv.2).1 kvs).1,
        (kv.1, (alloc h kv.2).2) :: (alloc.allocKvs (alloc h kv.2).1 kvs).2) := by
      rw [alloc.allocKvs]
    rw [e, ih]; rfl

/-! ### the region just allocated -/

/-- what `Ext.ptr` says of the pointers and `AllocOK` of the root; its three lemmas `left`, `right`,
    `last` are all the arithmetic of `alloc_spec` -/
def InNew (h : Heap) (new : List Cell) (b : Nat) : Prop := h.length ≤ b ∧ b < h.length + new.length

theorem InNew.left {h : Heap} {n₁ : List Cell} {b : Nat} (hb : InNew h n₁ b) (n₂ : List Cell) :
    InNew h (n₁ ++ n₂) b := by
  simp only [InNew, List.length_append] at *; omega

theorem Ext.length {h h' : Heap} {new : List Cell} (e : Ext h h' new) :
    h'.length = h.length + new.length := by rw [e.eq, List.length_append]

theorem InNew.right {h h₁ : Heap} {n₁ n₂ : List Cell} {b : Nat} (e : Ext h h₁ n₁)
    (hb : InNew h₁ n₂ b) : InNew h (n₁ ++ n₂) b := by
  simp only [InNew, e.length, List.length_append] at *; omega

theorem InNew.last {h h' : Heap} {new : List Cell} (e : Ext h h' new) (c : Cell) :
    InNew h (new ++ [c]) h'.length := by
  simp only [InNew, e.length, List.length_append, List.length_singleton]; omega

theorem Ext.nil (h : Heap) : Ext h h [] := ⟨(List.append_nil h).symm, nofun⟩

theorem Ext.trans {h h₁ h₂ : Heap} {n₁ n₂ : List Cell} (e₁ : Ext h h₁ n₁) (e₂ : Ext h₁ h₂ n₂) :
    Ext h h₂ (n₁ ++ n₂) where
  eq := by rw [e₂.eq, e₁.eq, List.append_assoc]
  ptr c hc b hb := (List.mem_append.1 hc).elim (fun hc => InNew.left (e₁.ptr c hc b hb) n₂)
    fun hc => InNew.right e₁ (e₂.ptr c hc b hb)

theorem Ext.snoc {h h' : Heap} {new : List Cell} (e : Ext h h' new) (c : Cell)
    (hc : ∀ b ∈ c.addrs, InNew h new b) : Ext h (h' ++ [c]) (new ++ [c]) where
  eq := by rw [e.eq, List.append_assoc]
  ptr c' hc' b hb := (List.mem_append.1 hc').elim (fun hc' => InNew.left (e.ptr c' hc' b hb) _)
    fun hc' => InNew.left (hc b (List.mem_singleton.1 hc' ▸ hb)) _

theorem mapM_opt_zip_keys {g : Addr → Option Tree} (kvs : List (String × Tree)) (as : List Addr)
    (h : as.mapM g = some (kvs.map (·.2))) :
    ((kvs.map (·.1)).zip as).mapM (fun kv => (g kv.2).map fun t => (kv.1, t)) = some kvs := by
  induction kvs generalizing as with
  | nil => rfl
  | cons kv kvs ih =>
    cases as with
    | nil => cases h
    | cons a as =>
      rw [List.mapM_opt_cons_eq_some] at h
      obtain ⟨y, ys, h1, h2, h3⟩ := h
      cases h3
      rw [List.map_cons, List.zip_cons_cons, List.mapM_opt_cons_eq_some]
      exact ⟨kv, kvs, by rw [h1]; rfl, ih as h2, rfl⟩

/-! ### What `alloc` guarantees -/

/-- the read-back is stated for every extension `rest` of the heap and every fuel `≥ new.length`: a
    member's copy is read after the cells of its later siblings and of its parent have been appended,
    with what is left of the parent's fuel -/
def AllocOK (h : Heap) (t : Tree) : Prop :=
  ∃ new : List Cell, Ext h (alloc h t).1 new ∧ InNew h new (alloc h t).2 ∧
    ∀ rest f, new.length ≤ f → snapshot (h ++ new ++ rest) f (alloc h t).2 = some t

/-- the list step of the induction over the nested type `Tree`: `ih` is the list motive of
    `alloc_spec` -/
theorem allocList_spec_of (ts : List Tree) (ih : ∀ t ∈ ts, ∀ h, AllocOK h t) (h : Heap) :
    ∃ new : List Cell, Ext h (alloc.allocList h ts).1 new ∧
    (∀ b ∈ (alloc.allocList h ts).2, InNew h new b) ∧
    (∀ rest f, new.length ≤ f →
      (alloc.allocList h ts).2.mapM (snapshot (h ++ new ++ rest) f) = some ts) := by
  induction ts generalizing h with
  | nil =>
    exact ⟨[], Ext.nil h, nofun, fun _ _ _ => List.mapM_nil⟩
  | cons t ts ihts =>
    obtain ⟨n₁, e₁, r₁, s₁⟩ := ih t List.mem_cons_self h
    obtain ⟨n₂, e₂, a₂, s₂⟩ := ihts (fun u hu => ih u (List.mem_cons_of_mem _ hu)) (alloc h t).1
    rw [allocList_cons]
    refine ⟨n₁ ++ n₂, e₁.trans e₂, fun b hb => ?_, fun rest f hf => ?_⟩
    · rcases List.mem_cons.1 hb with rfl | hb
      · exact r₁.left n₂
      · exact (a₂ b hb).right e₁
    · rw [List.length_append] at hf
      rw [List.mapM_opt_cons_eq_some]
      refine ⟨t, ts, ?_, ?_, rfl⟩
      · rw [← List.append_assoc h, List.append_assoc]
        exact s₁ (n₂ ++ rest) f (Nat.le_trans (Nat.le_add_right _ _) hf)
      · rw [← List.append_assoc h, ← e₁.eq]
        exact s₂ rest f (Nat.le_trans (Nat.le_add_left _ _) hf)

/-- a list cell or a dict cell (`mk as`) on top of the cells of its members `ts` -/
theorem alloc_node {ts : List Tree} (ih : ∀ t ∈ ts, ∀ h, AllocOK h t) (h : Heap)
    (mk : List Addr → Cell) (hmk : ∀ as, ∀ b ∈ (mk as).addrs, b ∈ as) (t : Tree)
    (hsnap : ∀ H f as, H[(alloc.allocList h ts).1.length]? = some (mk as) →
      as.mapM (snapshot H f) = some ts →
      snapshot H (f + 1) (alloc.allocList h ts).1.length = some t) :
    ∃ new : List Cell,
      Ext h ((alloc.allocList h ts).1 ++ [mk (alloc.allocList h ts).2]) new ∧
      InNew h new (alloc.allocList h ts).1.length ∧
      ∀ rest f, new.length ≤ f →
        snapshot (h ++ new ++ rest) f (alloc.allocList h ts).1.length = some t := by
  obtain ⟨new, e, has, hs⟩ := allocList_spec_of ts ih h
  refine ⟨new ++ [mk _], e.snoc _ fun b hb => has b (hmk _ b hb), InNew.last e _,
    fun rest f hf => ?_⟩
  rw [List.length_append, List.length_singleton] at hf
  obtain ⟨f, rfl⟩ : ∃ f', f = f' + 1 := ⟨f - 1, by omega⟩
  refine hsnap _ f _ (by rw [e.length]; exact getElem?_mid h new rest _) ?_
  rw [← List.append_assoc h, List.append_assoc]
  exact hs ([mk (alloc.allocList h ts).2] ++ rest) f (Nat.le_of_succ_le_succ hf)

theorem alloc_spec (t : Tree) : ∀ h : Heap, AllocOK h t := by
  -- `motive_2`, `motive_3`: "for all members" of a `List Tree`, of a dict's key-value list; `motive_4`: one pair's value
  refine Tree.rec (motive_1 := fun t => ∀ h, AllocOK h t)
    (motive_2 := fun ts => ∀ t ∈ ts, ∀ h, AllocOK h t)
    (motive_3 := fun kvs => ∀ kv ∈ kvs, ∀ h, AllocOK h kv.2) (motive_4 := fun kv => ∀ h, AllocOK h kv.2)
    (fun i h => ?_) (fun xs ih h => ?_) (fun kvs ih h => ?_) nofun
    (fun t ts h₁ h₂ u hu => (List.mem_cons.1 hu).elim (· ▸ h₁) (h₂ u)) nofun
    (fun kv kvs h₁ h₂ u hu => (List.mem_cons.1 hu).elim (· ▸ h₁) (h₂ u)) (fun _ _ h => h) t
  · unfold AllocOK
    rw [alloc_int]
    refine ⟨[.int i], ⟨rfl, fun c hc b hb => ?_⟩, InNew.last (Ext.nil h) _, fun rest f hf => ?_⟩
    · cases List.mem_singleton.1 hc; cases hb
    · obtain ⟨f, rfl⟩ : ∃ f', f = f' + 1 := ⟨f - 1, (Nat.sub_add_cancel hf).symm⟩
      rw [snapshot_succ, show (h ++ [Cell.int i] ++ rest)[h.length]? = _ from getElem?_mid h [] rest _]
  · unfold AllocOK
    exact alloc_node ih h .list (fun _ _ hb => hb) _ fun H f as hc hm => by
      rw [snapshot_succ, hc]; simp only [hm]; rfl
  · unfold AllocOK
    rw [alloc_dict, allocKvs_eq]
    refine alloc_node (ts := kvs.map (·.2))
      (fun t ht => by obtain ⟨kv, hkv, rfl⟩ := List.mem_map.1 ht; exact ih kv hkv) h
      (fun as => .dict ((kvs.map (·.1)).zip as)) (fun as b hb => ?_) _ fun H f as hc hm => ?_
    · obtain ⟨p, hp, rfl⟩ := List.mem_map.1 hb
      exact (List.of_mem_zip hp).2
    · rw [snapshot_succ, hc]; simp only [mapM_opt_zip_keys kvs as hm]; rfl

theorem allocList_spec : ∀ (ts : List Tree) (h : Heap), ∃ new : List Cell,
    Ext h (alloc.allocList h ts).1 new ∧
    (∀ b ∈ (alloc.allocList h ts).2, h.length ≤ (b : Nat) ∧ (b : Nat) < h.length + new.length) ∧
    (∀ rest f, new.length ≤ f →
      (alloc.allocList h ts).2.mapM (snapshot (h ++ new ++ rest) f) = some ts) :=
  fun ts => allocList_spec_of ts fun t _ => alloc_spec t

/-! ### Consequences for `alloc` -/

theorem alloc_prefix (h : Heap) (t : Tree) :
    (∀ a, a < h.length → (alloc h t).1[a]? = h[a]?) ∧ h.length ≤ (alloc h t).1.length := by
  obtain ⟨new, e, _, _⟩ := alloc_spec t h
  rw [e.eq]
  exact ⟨fun a ha => List.getElem?_append_left ha,
    by rw [List.length_append]; exact Nat.le_add_right _ _⟩

theorem alloc_root_fresh (h : Heap) (t : Tree) :
    h.length ≤ ((alloc h t).2 : Nat) ∧ ((alloc h t).2 : Nat) < (alloc h t).1.length := by
  obtain ⟨new, hext, h1, _⟩ := alloc_spec t h
  rw [hext.length]; exact h1

theorem alloc_new_cells_fresh (h : Heap) (t : Tree) (a : Nat) (c : Cell) (ha : h.length ≤ a)
    (hc : (alloc h t).1[a]? = some c) :
    ∀ b : Nat, b ∈ c.addrs → h.length ≤ b ∧ b < (alloc h t).1.length := by
  obtain ⟨new, hext, _, _⟩ := alloc_spec t h
  rw [hext.eq, List.getElem?_append_right ha] at hc
  rw [hext.length]
  exact fun b hb => hext.ptr c (List.mem_of_getElem? hc) b hb

theorem snapshot_alloc_of_le (h : Heap) (t : Tree) (f : Nat)
    (hf : (alloc h t).1.length - h.length ≤ f) :
    snapshot (alloc h t).1 f (alloc h t).2 = some t := by
  obtain ⟨new, e, _, hs⟩ := alloc_spec t h
  rw [e.length, Nat.add_sub_cancel_left] at hf
  rw [e.eq, ← List.append_nil (h ++ new)]
  exact hs [] f hf

theorem snapshot_alloc (h : Heap) (t : Tree) :
    ∃ fuel₀, ∀ fuel, fuel₀ ≤ fuel → snapshot (alloc h t).1 fuel (alloc h t).2 = some t :=
  ⟨_, snapshot_alloc_of_le h t⟩

theorem snapshot_alloc_fuelOf (h : Heap) (t : Tree) :
    snapshot (alloc h t).1 (fuelOf (alloc h t).1) (alloc h t).2 = some t :=
  snapshot_alloc_of_le h t _ (Nat.le_trans (Nat.sub_le _ _) (Nat.le_succ _))

/-! ### `write` -/

theorem write_length (h : Heap) (a : Addr) (c : Cell) : (write h a c).length = h.length := by
  unfold write; split <;> simp

theorem write_getElem?_ne (h : Heap) (a : Addr) (c : Cell) (b : Nat) (hb : b ≠ a) :
    (write h a c)[b]? = h[b]? := by
  unfold write; split
  · exact List.getElem?_set_ne (Ne.symm hb)
  · rfl

/-! ### `step` and `run` -/

/-- what entry `i` of the store reads as in the present heap: the stored tree, or the snapshot of
    the stored address -/
def read (s : St) (i : Nat) : Option Tree :=
  match s.store[i]? with
  | none => none
  | some (.tree t) => some t
  | some (.addr a) => snapshot s.heap (fuelOf s.heap) a

theorem step_access (s : St) (i : Nat) :
    step s (.access i) =
      match read s i with
      | none => (s, none)
      | some t =>
        ({ s with heap := (alloc s.heap t).1, handed := (alloc s.heap t).2 :: s.handed }, some t) := by
  simp only [step, read]
  cases s.store[i]? with
  | none => rfl
  | some x =>
    cases x with
    | tree t => simp only [snapshot_alloc_fuelOf]
    | addr a =>
      dsimp only
      cases snapshot s.heap (fuelOf s.heap) a with
      | none => rfl
      | some t => simp only [snapshot_alloc_fuelOf]

theorem step_access_out (s : St) (i : Nat) : (step s (.access i)).2 = read s i := by
  rw [step_access]
  cases read s i <;> rfl

/-- only two kinds of step change the state: an access that hands out a fresh copy of some tree, and
    a mutation -/
theorem step_preserves {P : St → Prop} {s : St} (op : Op) (h : P s)
    (hacc : ∀ t, P { s with heap := (alloc s.heap t).1, handed := (alloc s.heap t).2 :: s.handed })
    (hmut : ∀ a c, op = .mutate a c → P { s with heap := write s.heap a c }) : P (step s op).1 := by
  cases op with
  | access i =>
    rw [step_access]
    cases read s i with
    | none => exact h
    | some t => exact hacc t
  | mutate a c => exact hmut a c rfl

theorem step_store (s : St) (op : Op) : (step s op).1.store = s.store :=
  step_preserves (P := fun t => t.store = s.store) op rfl (fun _ => rfl) (fun _ _ _ => rfl)

theorem step_heap_length (s : St) (op : Op) : s.heap.length ≤ (step s op).1.heap.length :=
  step_preserves (P := fun t => s.heap.length ≤ t.heap.length) op (Nat.le_refl _)
    (fun t => (alloc_prefix s.heap t).2) (fun a c _ => Nat.le_of_eq (write_length s.heap a c).symm)

theorem isRun : IsRun step run := ⟨fun _ => rfl, fun _ _ _ => rfl⟩

theorem run_nil (s : St) : run s [] = (s, []) := rfl

theorem run_cons (s : St) (op : Op) (ops : List Op) :
    run s (op :: ops) = ((run (step s op).1 ops).1, (step s op).2 :: (run (step s op).1 ops).2) := rfl

theorem run_store (s : St) (ops : List Op) : (run s ops).1.store = s.store :=
  isRun.inv (P := fun t => t.store = s.store) (fun t op _ h => (step_store t op).trans h) rfl

theorem run_heap_length (s : St) (ops : List Op) : s.heap.length ≤ (run s ops).1.heap.length :=
  isRun.inv (P := fun t => s.heap.length ≤ t.heap.length)
    (fun t op _ h => Nat.le_trans h (step_heap_length t op)) (Nat.le_refl _)

theorem run_length (s : St) (ops : List Op) : (run s ops).2.length = ops.length :=
  isRun.length s ops

/-! ### Handed-out addresses -/

theorem step_handed (s : St) (op : Op) :
    ∀ a : Nat, a ∈ (step s op).1.handed → a ∈ s.handed ∨ (s.heap.length ≤ a ∧ a < (step s op).1.heap.length) :=
  step_preserves (P := fun t => ∀ a : Nat, a ∈ t.handed → a ∈ s.handed ∨ (s.heap.length ≤ a ∧ a < t.heap.length))
    op (fun _ => .inl)
    (fun t _ ha => (List.mem_cons.1 ha).elim (fun e => .inr (e ▸ alloc_root_fresh s.heap t)) .inl)
    (fun _ _ _ _ => .inl)

theorem run_handed_nodup (s : St) (ops : List Op) (hv : ∀ a : Nat, a ∈ s.handed → a < s.heap.length)
    (hn : s.handed.Nodup) :
    (∀ a : Nat, a ∈ (run s ops).1.handed → a < (run s ops).1.heap.length) ∧
      (run s ops).1.handed.Nodup := by
  refine isRun.inv (P := fun t => (∀ a : Nat, a ∈ t.handed → a < t.heap.length) ∧ t.handed.Nodup)
    (fun t op _ ⟨hv, hn⟩ => ⟨fun a ha => ?_, ?_⟩) ⟨hv, hn⟩
  · rcases step_handed t op a ha with h | h
    · exact Nat.lt_of_lt_of_le (hv a h) (step_heap_length t op)
    · exact h.2
  · -- the root of a fresh copy is beyond every valid address of the heap before the access
    exact step_preserves (P := fun u => u.handed.Nodup) op hn
      (fun u => List.nodup_cons.2
        ⟨fun hm => Nat.lt_irrefl _ (Nat.lt_of_lt_of_le (hv _ hm) (alloc_root_fresh t.heap u).1), hn⟩)
      (fun _ _ _ => hn)

theorem run_handed_ge (s : St) (ops : List Op) :
    ∀ a : Nat, a ∈ (run s ops).1.handed → a ∈ s.handed ∨ s.heap.length ≤ a :=
  (isRun.inv (P := fun t => s.heap.length ≤ t.heap.length ∧
      ∀ a : Nat, a ∈ t.handed → a ∈ s.handed ∨ s.heap.length ≤ a)
    (fun t op _ ⟨hl, hh⟩ => ⟨Nat.le_trans hl (step_heap_length t op), fun a ha =>
      (step_handed t op a ha).elim (hh a) fun h => .inr (Nat.le_trans hl h.1)⟩)
    ⟨Nat.le_refl _, fun _ => .inl⟩).2

/-! ### The copy-mode invariant -/

/-- the region below the watermark `w` is downward closed: its cells only point below `w` -/
def ClosedBelow (h : Heap) (w : Nat) : Prop :=
  ∀ a : Nat, a < w → ∀ c, h[a]? = some c → ∀ b : Nat, b ∈ c.addrs → b < w

/-- `h` agrees with `h0` below `w` and is at least as long -/
def Frozen (w : Nat) (h0 h : Heap) : Prop :=
  h0.length ≤ h.length ∧ ∀ a : Nat, a < w → h[a]? = h0[a]?

theorem Frozen.refl (w : Nat) (h : Heap) : Frozen w h h := ⟨Nat.le_refl _, fun _ _ => rfl⟩

theorem Frozen.alloc {w : Nat} {h0 h : Heap} (hf : Frozen w h0 h) (hw : w ≤ h0.length) (t : Tree) :
    Frozen w h0 (alloc h t).1 := by
  refine ⟨Nat.le_trans hf.1 (alloc_prefix h t).2, fun a ha => ?_⟩
  rw [(alloc_prefix h t).1 a (by have := hf.1; omega)]
  exact hf.2 a ha

theorem Frozen.write {w : Nat} {h0 h : Heap} (hf : Frozen w h0 h) (a : Addr) (c : Cell)
    (ha : w ≤ (a : Nat)) : Frozen w h0 (write h a c) := by
  refine ⟨by rw [write_length]; exact hf.1, fun b hb => ?_⟩
  rw [write_getElem?_ne h a c b (Nat.ne_of_lt (Nat.lt_of_lt_of_le hb ha))]
  exact hf.2 b hb

theorem Frozen.step {w : Nat} {h0 : Heap} {s : St} (hf : Frozen w h0 s.heap) (hw : w ≤ h0.length)
    (op : Op) (hm : ∀ a c, op = .mutate a c → w ≤ (a : Nat)) : Frozen w h0 (step s op).1.heap :=
  step_preserves (P := fun t => Frozen w h0 t.heap) op hf (fun t => hf.alloc hw t)
    (fun a c e => hf.write a c (hm a c e))

theorem Frozen.run {w : Nat} {h0 : Heap} {s : St} (hf : Frozen w h0 s.heap) (hw : w ≤ h0.length)
    (ops : List Op) (hm : ∀ a c, Op.mutate a c ∈ ops → w ≤ (a : Nat)) :
    Frozen w h0 (run s ops).1.heap :=
  isRun.inv (P := fun t => Frozen w h0 t.heap)
    (fun _ op ho h => h.step hw op fun a c e => hm a c (e ▸ ho)) hf

theorem Frozen.snapshot {w : Nat} {h0 h : Heap} (hf : Frozen w h0 h) (hcl : ClosedBelow h0 w)
    {a : Nat} (ha : a < w) {t : Tree} (hs : snapshot h0 (fuelOf h0) a = some t) :
    snapshot h (fuelOf h) a = some t := by
  rw [snapshot_frame (· < w) h0 h hcl hf.2 (fuelOf h) a ha]
  exact snapshot_mono hs (by unfold fuelOf; have := hf.1; omega)

/-! ### Isolation -/

theorem run_access_out (s : St) (ops : List Op) (k i : Nat) (hop : ops[k]? = some (.access i)) :
    (run s ops).2[k]? = some (read (run s (ops.take k)).1 i) := by
  rw [isRun.getElem?, hop, Option.map_some, step_access_out]

theorem isolated_tree (s : St) (ops : List Op) (k i : Nat) (t : Tree)
    (hop : ops[k]? = some (.access i)) (hst : s.store[i]? = some (.tree t)) :
    (run s ops).2[k]? = some (some t) := by
  rw [run_access_out s ops k i hop, read, run_store, hst]

theorem isolated_addr (s : St) (w : Nat) (hw : w ≤ s.heap.length) (hcl : ClosedBelow s.heap w)
    (ops : List Op) (hm : ∀ a c, Op.mutate a c ∈ ops → w ≤ (a : Nat)) (k i : Nat) (a0 : Nat) (t : Tree)
    (hop : ops[k]? = some (.access i)) (hst : s.store[i]? = some (.addr a0)) (ha0 : a0 < w)
    (hsnap : snapshot s.heap (fuelOf s.heap) a0 = some t) :
    (run s ops).2[k]? = some (some t) := by
  have hfr : Frozen w s.heap (run s (ops.take k)).1.heap :=
    (Frozen.refl w s.heap).run hw _ (fun a c h => hm a c (List.mem_of_mem_take h))
  rw [run_access_out s ops k i hop, read, run_store, hst]
  exact congrArg some (hfr.snapshot hcl ha0 hsnap)

theorem mutates_ge_of_handed (w : Nat) (s : St) (ops : List Op) (hw : w ≤ s.heap.length)
    (hh : ∀ a : Nat, a ∈ s.handed → w ≤ a)
    (hm : ∀ k a c, ops[k]? = some (.mutate a c) → a ∈ (run s (ops.take k)).1.handed) :
    ∀ a c, Op.mutate a c ∈ ops → w ≤ (a : Nat) := by
  intro a c h
  obtain ⟨k, hk⟩ := List.getElem?_of_mem h
  rcases run_handed_ge s (ops.take k) a (hm k a c hk) with h' | h'
  · exact hh a h'
  · exact Nat.le_trans hw h'

/-! ### A decidable check for `ClosedBelow` (for concrete examples) -/

def closedBelowB (h : Heap) (w : Nat) : Bool :=
  (List.range w).all fun a =>
    match h[a]? with
    | none => true
    | some c => c.addrs.all (fun b => decide (b < w))

theorem closedBelow_of_check {h : Heap} {w : Nat} (hc : closedBelowB h w = true) :
    ClosedBelow h w := by
  intro a ha c hc' b hb
  have := List.all_eq_true.1 hc a (List.mem_range.2 ha)
  simp only [hc', List.all_eq_true, decide_eq_true_eq] at this
  exact this b hb

/-! ### Concrete data for the examples in `LazyDs.Props.C09` -/

namespace Ex

/-- the caller's example `{"x": [1, 2]}`: cells 0, 1 the ints, 2 the list, 3 the dict -/
def heap0 : Heap := [.int 1, .int 2, .list [0, 1], .dict [("x", 2)]]

def tEx : Tree := .dict [("x", .list [.int 1, .int 2])]

/-- `immutable_warranty='pickle'` / `'wu'`, or a cache entry: the dataset holds the bytes -/
def sPickle : St := ⟨heap0, [.tree tEx], []⟩

/-- `immutable_warranty='copy'`: the dataset holds the caller's object (root cell 3) -/
def sCopy : St := ⟨heap0, [.addr 3], []⟩

/-- `ex = ds[0]; ex['x'].pop(); del ex['x']; ds[0]`: the first access allocates cells 4..7
    (list cell 6, root 7); the user then mutates cells of the copy only -/
def histHanded : List Op := [.access 0, .mutate 7 (.dict []), .mutate 6 (.list [4]), .access 0]

/-- the same, but the second mutation is `examples[0]['x'].pop()` on the ORIGINAL container
    (cell 2, below the watermark 4) -/
def histOriginal : List Op := [.access 0, .mutate 7 (.dict []), .mutate 2 (.list [0]), .access 0]

/-- only ROOTS of handed-out examples are mutated (`ex1.clear(); ex2 = ds[0]; ex2['y'] = ex1`);
    the roots handed out are 7, 11, 15 -/
def histRoots : List Op :=
  [.access 0, .mutate 7 (.dict []), .access 0, .mutate 11 (.dict [("y", 7)]), .access 0]

end Ex

end LazyDs.Heap
