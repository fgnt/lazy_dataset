import LazyDs.Lemmas.RefWF
/-
  Refinement lemmas for the n-ary stages: `ConcatenateDataset` (`concatDS`)
  and `ZipDataset` (`zipDS`).  "Componentwise related" is `List.Forall₂ Rel ds rs`
  (the inductive comes from `Batteries.Data.List.Basic`, its lemmas from `Lemmas/Forall2.lean`).
-/
namespace LazyDs

open List (Forall₂)

theorem outAt_append_left (a b : List (Res Val)) (i : Int) (h0 : 0 ≤ i) (h : i < a.length) :
    outAt (a ++ b) i = outAt a i := by
  obtain ⟨j, rfl⟩ := Int.eq_ofNat_of_zero_le h0
  have hj : j < a.length := by omega
  rw [outAt_lt a j hj, outAt_getElem? (by rw [List.getElem?_append_left hj, List.getElem?_eq_getElem hj])]

theorem outAt_append_right (a b : List (Res Val)) (i : Int) (h : (a.length : Int) ≤ i) :
    outAt (a ++ b) i = outAt b (i - a.length) := by
  obtain ⟨j, rfl⟩ := Int.eq_ofNat_of_zero_le (Int.le_trans (Int.natCast_nonneg _) h)
  have hj : a.length ≤ j := Int.ofNat_le.1 h
  rw [← Int.ofNat_sub hj, outAt_nat, outAt_nat, List.getElem?_append_right hj]

/-! ### what componentwise related lists agree on

  A field of every part goes through the `Forall₂` lemmas directly (`h.map_eq fun _ _ hr => hr.iter`);
  the lemmas here are for the recursive functions that the model and the reference each define. -/

theorem sumLens_eq {ds : List DS} {rs : List RefDS} (h : Forall₂ Rel ds rs) :
    sumLens ds = Ref.sumLens rs := by
  induction h with
  | nil => rfl
  | cons hr _ ih => simp only [sumLens, Ref.sumLens, hr.len, ih]

theorem allLens_eq_mapM (ds : List DS) : allLens ds = ds.mapM (·.len) := by
  induction ds with
  | nil => rfl
  | cons d ds ih => rw [allLens, ih, List.mapM_cons]; rfl

theorem ref_allLens_eq_mapM (rs : List RefDS) : Ref.allLens rs = rs.mapM (·.len) := by
  induction rs with
  | nil => rfl
  | cons r rs ih => rw [Ref.allLens, ih, List.mapM_cons]; rfl

theorem allLens_eq {ds : List DS} {rs : List RefDS} (h : Forall₂ Rel ds rs) :
    allLens ds = Ref.allLens rs := by
  rw [allLens_eq_mapM, ref_allLens_eq_mapM, h.mapM_eq fun _ _ hr => hr.len]

/-! ### the reference of a concatenation -/

theorem concat_cons_outs (r : RefDS) (rs : List RefDS) :
    (Ref.concat (r :: rs)).outs = r.outs ++ (Ref.concat rs).outs := by
  simp only [Ref.concat, List.map_cons, List.flatten_cons]

theorem concat_cons_stream (r : RefDS) (rs : List RefDS) :
    (Ref.concat (r :: rs)).stream = r.stream.append (Ref.concat rs).stream := rfl

theorem concat_cons_kstream (r : RefDS) (rs : List RefDS) :
    (Ref.concat (r :: rs)).kstream = r.kstream.append (Ref.concat rs).kstream := rfl

theorem concatKeys_eq_ok {rs : List RefDS} {ks : List String} :
    Ref.concatKeys rs = .ok ks ↔ ∃ kss, rs.mapM (·.keys) = .ok kss ∧ hasDup kss.flatten = false ∧ kss.flatten = ks := by
  simp only [Ref.concatKeys, bind_eq_ok, ite_error_eq_ok, Bool.not_eq_true, Except.ok.injEq]

theorem sized_concat {rs : List RefDS} (h : ∀ r ∈ rs, Sized r) : Sized (Ref.concat rs) := by
  refine ⟨fun hix => ?_, fun hix ks hk => ?_⟩
  · have hi := all_indexable_mem hix
    clear hix
    induction rs with
    | nil => rfl
    | cons r rs ih =>
      have h1 := (h r (by simp)).lenOuts (hi r (by simp))
      have h2 := ih (fun r' hr' => h r' (by simp [hr'])) (fun r' hr' => hi r' (by simp [hr']))
      rw [concat_cons_outs, List.length_append]
      simp only [Ref.concat] at h2 ⊢
      simp only [Ref.sumLens, h1, h2]; rfl
  · have hi := all_indexable_mem hix
    obtain ⟨kss, hm, -, rfl⟩ := concatKeys_eq_ok.1 hk
    clear hix hk
    induction rs generalizing kss with
    | nil => cases hm; rfl
    | cons r rs ih =>
      cases kss with
      | nil => rw [List.mapM_eq_ok_iff] at hm; cases hm
      | cons b bs =>
        rw [List.mapM_cons_eq_ok_iff] at hm
        rw [concat_cons_outs, List.flatten_cons, List.length_append, List.length_append,
          (h r (by simp)).keysLen (hi r (by simp)) b hm.1,
          ih (fun r' hr' => h r' (by simp [hr'])) (fun r' hr' => hi r' (by simp [hr'])) bs hm.2]

/-! ### the part walk -/

theorem concatWalk_eq {ds : List DS} {rs : List RefDS} (h : Forall₂ Rel ds rs)
    (hi : ∀ r ∈ rs, r.indexable = true) (j : Int) (hj : 0 ≤ j) :
    concatWalk ds j = outAt (Ref.concat rs).outs j := by
  induction h generalizing j with
  | nil => rw [outAt_ge _ _ (by simpa [Ref.concat] using hj)]; rfl
  | @cons d r ds rs hr _ ih =>
    obtain ⟨hl, hg⟩ := hr.idx (hi r (by simp))
    have ih' := ih (fun r' hr' => hi r' (by simp [hr']))
    rw [concat_cons_outs]
    simp only [concatWalk, hr.len, hl, ok_bind]
    by_cases hc : (r.outs.length : Int) ≤ j
    · rw [if_pos hc, outAt_append_right _ _ _ hc, ih' _ (by omega)]
    · rw [if_neg hc, outAt_append_left _ _ _ hj (by omega), hg j]

theorem concat_getInt_eq {ds : List DS} {rs : List RefDS} (h : Forall₂ Rel ds rs)
    (hi : ∀ r ∈ rs, r.indexable = true) (hlen : Ref.sumLens rs = .ok (Ref.concat rs).outs.length)
    (i : Int) : (concatDS ds).getInt i = outAt (Ref.concat rs).outs i := by
  rw [← normWalk_eq (walk := concatWalk ds) (fun j => concatWalk_eq h hi j (by omega)) i]
  simp only [concatDS, sumLens_eq h, hlen, ok_bind]

/-! ### key tables of a concatenation -/

theorem concatKeysRaw_eq_mapM (ds : List DS) :
    concatKeysRaw ds = (do let kss ← ds.mapM (·.keys); .ok kss.flatten) := by
  induction ds with
  | nil => rfl
  | cons d ds ih =>
    rw [concatKeysRaw, ih, List.mapM_cons]
    cases d.keys with
    | error e => rfl
    | ok a => cases ds.mapM (·.keys) <;> rfl

theorem concatKeys_eq {ds : List DS} {rs : List RefDS} (h : Forall₂ Rel ds rs) :
    concatKeys ds = Ref.concatKeys rs := by
  rw [concatKeys, Ref.concatKeys, concatKeysRaw_eq_mapM, h.mapM_eq fun _ _ hr => hr.keys]
  cases rs.mapM (·.keys) <;> rfl

theorem firstWithKey_eq {ds : List DS} {rs : List RefDS} (h : Forall₂ Rel ds rs)
    (hi : ∀ r ∈ rs, r.indexable = true) (kss : List (List String))
    (hm : rs.mapM (·.keys) = .ok kss) (hn : kss.flatten.Nodup) (j : Nat) (k : String)
    (hk : kss.flatten[j]? = some k) :
    firstWithKey ds k = some (outAt (Ref.concat rs).outs (j : Int)) := by
  induction h generalizing kss j with
  | nil => cases hm; cases hk
  | @cons d r ds rs hr _ ih =>
    cases kss with
    | nil => rw [List.mapM_eq_ok_iff] at hm; cases hm
    | cons b bs =>
      obtain ⟨hb, hbs⟩ := List.mapM_cons_eq_ok_iff.1 hm
      have hir := hi r List.mem_cons_self
      have hlenb : b.length = r.outs.length := hr.keysLen hir b hb
      rw [List.flatten_cons] at hn hk
      obtain ⟨_, hn2, hdisj⟩ := List.nodup_append.1 hn
      rw [concat_cons_outs, firstWithKey, hr.keys, hb]
      dsimp only
      by_cases hj : j < b.length
      ·
        rw [List.getElem?_append_left hj, List.getElem?_eq_getElem hj] at hk
        cases hk
        rw [if_pos (List.contains_iff_mem.2 (List.getElem_mem hj)), hr.getKey hir b hb j hj,
          outAt_append_left _ _ _ (Int.natCast_nonneg j) (Int.ofNat_lt.2 (hlenb ▸ hj))]
      · -- a later table lists the key and, the keys being distinct, the first does not
        have hle : b.length ≤ j := Nat.le_of_not_lt hj
        rw [List.getElem?_append_right hle] at hk
        have hnot : ¬ b.contains k = true := fun hc =>
          hdisj k (List.contains_iff_mem.1 hc) k (List.mem_of_getElem? hk) rfl
        rw [if_neg hnot, ih (fun r' hr' => hi r' (List.mem_cons_of_mem _ hr')) bs hbs hn2 (j - b.length) hk,
          outAt_append_right _ _ _ (Int.ofNat_le.2 (hlenb ▸ hle)), ← hlenb, ← Int.ofNat_sub hle]

theorem rel_concat {ds : List DS} {rs : List RefDS} (h : Forall₂ Rel ds rs) :
    Rel (concatDS ds) (Ref.concat rs) := by
  have hsz := sized_concat fun r hr => (h.of_mem_right hr).elim fun _ hd => hd.2.sized
  exact
  { indexable := h.all_eq fun _ _ hr => hr.indexable
    len := sumLens_eq h
    keys := concatKeys_eq h
    iter := h.foldr_eq (fun _ _ hr => by rw [hr.iter]) _
    iterK := h.foldr_eq (fun _ _ hr => by rw [hr.iterK]) _
    idx := fun hix =>
      ⟨hsz.lenOuts hix, concat_getInt_eq h (all_indexable_mem hix) (hsz.lenOuts hix)⟩
    noIdxErr := by
      intro hix o ho
      simp only [Ref.concat, List.mem_flatten, List.mem_map] at ho
      obtain ⟨_, ⟨r, hr, rfl⟩, hol⟩ := ho
      obtain ⟨d, _, hd⟩ := h.of_mem_right hr
      exact hd.noIdxErr (all_indexable_mem hix r hr) o hol
    keysLen := hsz.keysLen
    getKey := by
      intro hix ks hk j hj
      obtain ⟨kss, hm, hd, rfl⟩ := concatKeys_eq_ok.1 hk
      have hf := firstWithKey_eq h (all_indexable_mem hix) kss hm ((hasDup_eq_false_iff _).1 hd) j _
        (List.getElem?_eq_getElem hj)
      simp only [concatDS, (concatKeys_eq h).trans hk, hf, ok_bind] }

/-! ### zip: rows of outcomes -/

def rowAt (ls : List (List (Res Val))) (i : Int) : Res Val := do
  let row ← ls.mapM (fun l => outAt l i)
  .ok (.tup row)

theorem zipOuts_eq (ls : List (List (Res Val))) (n : Nat) :
    Ref.zipOuts ls n = (List.range n).map fun (t : Nat) => rowAt ls t := by
  induction n with
  | zero => rfl
  | succ n ih => rw [Ref.zipOuts, ih, List.range_succ, List.map_append]; rfl

theorem rowAt_eq_outAt (ls : List (List (Res Val))) (n : Nat) (hne : ls ≠ [])
    (hlen : ∀ l ∈ ls, l.length = n) (i : Int) : rowAt ls i = outAt (Ref.zipOuts ls n) i := by
  rw [zipOuts_eq]
  refine (outAt_tabulate (fun i h => ?_) (fun i j h => ?_) i).symm
  · cases ls with
    | nil => exact absurd rfl hne
    | cons l ls => simp only [rowAt, List.mapM_cons, outAt_none (hlen l (by simp)) h]; rfl
  · unfold rowAt
    rw [List.mapM_congr_left fun l hl => outAt_some (hlen l hl) h]

theorem rowAt_error {ls : List (List (Res Val))} {i : Int} {e : Err} (h : rowAt ls i = .error e) :
    ∃ l ∈ ls, outAt l i = .error e := by
  unfold rowAt at h
  cases hm : ls.mapM (fun l => outAt l i) with
  | ok row => rw [hm] at h; cases h
  | error e' => rw [hm] at h; cases h; exact List.mapM_error_mem hm

theorem sized_zip {rs : List RefDS} (h : ∀ r ∈ rs, Sized r) (hne : rs ≠ []) : Sized (Ref.zip rs) := by
  refine ⟨fun hix => ?_, fun _ ks hk => nomatch hk⟩
  cases rs with
  | nil => exact absurd rfl hne
  | cons r rs =>
    simp only [Ref.zip, zipOuts_eq, List.length_map, List.length_range]
    exact (h r (by simp)).lenOuts (all_indexable_mem hix r (by simp))

theorem rel_zip {ds : List DS} {rs : List RefDS} (h : Forall₂ Rel ds rs) (hne : ds ≠ [])
    (hsame : ∃ n, ∀ r ∈ rs, r.len = .ok n) : Rel (zipDS ds) (Ref.zip rs) := by
  obtain ⟨n, hn⟩ := hsame
  cases h with
  | nil => exact absurd rfl hne
  | @cons d r ds' rs' hr ht =>
    have h : Forall₂ Rel (d :: ds') (r :: rs') := .cons hr ht
    have hsz := sized_zip (fun r hr => (h.of_mem_right hr).elim fun _ hd => hd.2.sized) (by simp)
    have houts : (∀ r' ∈ r :: rs', r'.indexable = true) →
        ∀ l ∈ (r :: rs').map (·.outs), l.length = n := by
      intro hi l hl
      obtain ⟨r', hr', rfl⟩ := List.mem_map.1 hl
      obtain ⟨d', _, hd'⟩ := h.of_mem_right hr'
      have := (hd'.idx (hi r' hr')).1.symm.trans (hn r' hr')
      exact (Except.ok.inj this)
    refine
      { indexable := h.all_eq fun _ _ hr => hr.indexable, len := hr.len, keys := rfl, iter := ?_,
        iterK := rfl, idx := fun hix => ⟨hsz.lenOuts hix, fun i => ?_⟩, noIdxErr := ?_,
        keysLen := hsz.keysLen, getKey := fun _ ks hk => nomatch hk }
    · simp only [zipDS, Ref.zip, h.map_eq fun _ _ hr => hr.iter]
    · have hi := all_indexable_mem hix
      have hl := houts hi
      rw [show (Ref.zip (r :: rs')).outs = Ref.zipOuts ((r :: rs').map (·.outs)) r.outs.length from rfl,
        hl r.outs (by simp), ← rowAt_eq_outAt _ n (by simp) hl i]
      simp only [zipDS, tupleGet, rowAt, List.mapM_map]
      rw [h.and_mem_right.mapM_eq fun d' r' h' => (h'.1.idx (hi r' h'.2)).2 i]; rfl
    · intro hix o ho hbad
      have hi := all_indexable_mem hix
      have hl := houts hi
      rw [show (Ref.zip (r :: rs')).outs = Ref.zipOuts ((r :: rs').map (·.outs)) r.outs.length from rfl,
        hl r.outs (by simp), zipOuts_eq] at ho
      obtain ⟨t, ht, rfl⟩ := List.mem_map.1 ho
      obtain ⟨l, hlm, hle⟩ := rowAt_error hbad
      obtain ⟨r', hr', rfl⟩ := List.mem_map.1 hlm
      obtain ⟨d', _, hd'⟩ := h.of_mem_right hr'
      have hlt : t < r'.outs.length := by rw [hl _ hlm]; exact List.mem_range.1 ht
      rw [outAt_lt _ t hlt] at hle
      exact hd'.noIdxErr (hi r' hr') _ (List.getElem_mem hlt) hle

/-! ### the length check of `ZipDataset.__init__` -/

theorem allEq_mem {lens : List Nat} (h : allEq lens = true) : ∀ a ∈ lens, a = lens.headD 0 := by
  cases lens with
  | nil => intro a ha; cases ha
  | cons a0 rest =>
    intro a ha
    simp only [allEq, List.all_eq_true, beq_iff_eq] at h
    rcases List.mem_cons.1 ha with rfl | hm
    · rfl
    · exact h a hm

theorem ref_allLens_mem {rs : List RefDS} {lens : List Nat} (h : Ref.allLens rs = .ok lens) :
    ∀ r ∈ rs, ∃ a ∈ lens, r.len = .ok a := by
  rw [ref_allLens_eq_mapM] at h
  exact fun r hr => List.mapM_ok_of_mem h hr

/-- supplies the hypothesis `hsame` of `rel_zip` -/
theorem allLens_same {rs : List RefDS} {lens : List Nat} (hl : Ref.allLens rs = .ok lens)
    (he : allEq lens = true) : ∃ n, ∀ r ∈ rs, r.len = .ok n :=
  ⟨lens.headD 0, fun r hr => by
    obtain ⟨a, ha, hra⟩ := ref_allLens_mem hl r hr
    rw [hra, allEq_mem he a ha]⟩

end LazyDs
