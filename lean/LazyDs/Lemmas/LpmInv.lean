/-
  `lazy_parallel_map` (`Conc/Lpm.lean`): how the table of futures changes, the transition relation `Next` (one
  constructor per branch of `step`), the termination measure, how a single future evolves in one step (`FTrans`),
  the inductive invariant, deadlock freedom as a fact about every state that satisfies the invariant.
  The invariant has three parts: `Core` (does not look at the consumer's program point), `Live`
  (holds until the first error or `close`) and `PhaseInv` (by program point).  Preservation of
  `Core` and `Live` is proved once per way the data changes (`Core.pull`, `.pop`, `.deliver`,
  `.submit`, `.setF`, `.kill`), not once per step; `Inv.next` composes them.
  CORE LEAN ONLY.
-/
import LazyDs.Conc.Lpm
import LazyDs.Lemmas.Machine
import LazyDs.Lemmas.ListAux

namespace LazyDs.Lpm

variable {α β ε : Type}

/-! ## Reachability -/

def Reachable (w b : Nat) (ek : ExitKind) (tk : TermKind) (f : α → Except ε β)
    (src₀ : List α) (ending : Option ε) (s : St α β ε) : Prop :=
  ∃ sched, run (init w b ek tk f src₀ ending) sched = some s

theorem isSched : IsSched (step (α := α) (β := β) (ε := ε)) run :=
  ⟨fun _ => rfl, fun s t _ => by rw [run]; cases step s t <;> rfl⟩

section
variable {w b : Nat} {ek : ExitKind} {tk : TermKind} {f : α → Except ε β} {src₀ : List α}
  {ending : Option ε} {s s' : St α β ε}

theorem Reachable.of_run (sched : List Tid) (h : run (init w b ek tk f src₀ ending) sched = some s) :
    Reachable w b ek tk f src₀ ending s :=
  ⟨sched, h⟩

theorem Reachable.step {t : Tid} (h : Reachable w b ek tk f src₀ ending s)
    (hs : step s t = some s') : Reachable w b ek tk f src₀ ending s' :=
  isSched.reach_step h hs

end

/-! ## The table of futures: `setF`, the kill map, counting

Every statement about all futures has the form `∀ i x st, futs[i]? = some (x, st) → P i x st`;
`forall_setF`, `forall_kill` and `forall_append` carry such a statement over the three ways the
table changes. -/

theorem mem_of_forall_idx {P : FState β ε → Prop} {futs : List (α × FState β ε)}
    (h : ∀ (i : Nat) x st, futs[i]? = some (x, st) → P st) : ∀ p ∈ futs, P p.2 := by
  rintro ⟨x, st⟩ hmem
  obtain ⟨j, hj⟩ := List.mem_iff_getElem?.mp hmem
  exact h j x st hj

@[simp] theorem length_setF (futs : List (α × FState β ε)) (i : Nat) (st : FState β ε) :
    (setF futs i st).length = futs.length := by
  unfold setF; split <;> simp

theorem getElem?_setF {futs : List (α × FState β ε)} {i : Nat} {x : α} {old st : FState β ε}
    (h : futs[i]? = some (x, old)) (j : Nat) :
    (setF futs i st)[j]? = if j = i then some (x, st) else futs[j]? := by
  have hi := List.lt_of_getElem?_eq_some h
  unfold setF; rw [h]; simp only [List.getElem?_set]
  by_cases hji : j = i
  · subst hji; simp [hi]
  · have : ¬ i = j := fun e => hji e.symm
    simp [hji, this]

theorem forall_setF {P : Nat → α → FState β ε → Prop} {futs : List (α × FState β ε)} {i : Nat}
    {x : α} {old new : FState β ε}
    (hP : ∀ j y st, futs[j]? = some (y, st) → j ≠ i → P j y st) (h : futs[i]? = some (x, old))
    (hnew : P i x new) : ∀ j y st, (setF futs i new)[j]? = some (y, st) → P j y st := by
  intro j y st hj
  rw [getElem?_setF h] at hj
  split at hj
  · injection hj with hj; injection hj with h1 h2; subst h1; subst h2; subst j; exact hnew
  · exact hP _ _ _ hj ‹_›

/-- the map that `step` applies to the table of futures for `killAll`, `killOnError` and `terminatePool` -/
def kill (p : α × FState β ε) : α × FState β ε := if isActive p.2 then (p.1, .cancelled) else p

theorem forall_kill {P : Nat → α → FState β ε → Prop} {futs : List (α × FState β ε)}
    (hP : ∀ j y st, futs[j]? = some (y, st) → isActive st = false → P j y st)
    (hc : ∀ j y old, futs[j]? = some (y, old) → isActive old = true → P j y .cancelled) :
    ∀ j y st, (futs.map kill)[j]? = some (y, st) → P j y st := by
  intro j y st hj
  simp only [List.getElem?_map, Option.map_eq_some_iff] at hj
  obtain ⟨⟨z, old⟩, hj, hk⟩ := hj
  unfold kill at hk
  split at hk <;> cases hk
  · exact hc _ _ _ hj ‹_›
  · exact hP _ _ _ hj (Bool.eq_false_iff.mpr ‹_›)

theorem forall_append {P : Nat → α → FState β ε → Prop} {futs : List (α × FState β ε)} {x : α}
    (hP : ∀ j y st, futs[j]? = some (y, st) → P j y st) (hnew : P futs.length x .pending) :
    ∀ j y st, (futs ++ [(x, .pending)])[j]? = some (y, st) → P j y st := by
  intro j y st hj
  rcases List.getElem?_append_singleton hj with hj | ⟨rfl, h⟩
  · exact hP _ _ _ hj
  · cases h; exact hnew

def nPending (futs : List (α × FState β ε)) : Nat := futs.countP (fun p => isPending p.2)
def nRunning (futs : List (α × FState β ε)) : Nat := futs.countP (fun p => isRunning p.2)

theorem numRunning_eq (s : St α β ε) : numRunning s = nRunning s.futs := by
  simp [numRunning, nRunning, List.countP_eq_length_filter]

theorem countP_setF {futs : List (α × FState β ε)} {i : Nat} {x : α} {old st : FState β ε}
    (p : FState β ε → Bool) (h : futs[i]? = some (x, old)) :
    (setF futs i st).countP (fun q => p q.2) + (if p old then 1 else 0)
      = futs.countP (fun q => p q.2) + (if p st then 1 else 0) := by
  obtain ⟨hi, hget⟩ := List.getElem?_eq_some_iff.mp h
  have hle : (if p futs[i].2 = true then 1 else 0) ≤ futs.countP (fun q => p q.2) := by
    by_cases hp : p futs[i].2 = true
    · simp only [hp, if_true]
      exact List.countP_pos_iff.mpr ⟨_, List.getElem_mem hi, hp⟩
    · simp [hp]
  unfold setF; rw [h]
  rw [List.countP_set hi, hget] at *
  dsimp only at *
  omega

theorem counts_start {futs : List (α × FState β ε)} {i : Nat} {x : α}
    (h : futs[i]? = some (x, .pending)) :
    nPending (setF futs i .running) + 1 = nPending futs ∧
      nRunning (setF futs i .running) = nRunning futs + 1 :=
  ⟨countP_setF isPending h, countP_setF isRunning h⟩

theorem counts_finish {futs : List (α × FState β ε)} {i : Nat} {x : α} (r : Except ε β)
    (h : futs[i]? = some (x, .running)) :
    nPending (setF futs i (.done r)) = nPending futs ∧
      nRunning (setF futs i (.done r)) + 1 = nRunning futs :=
  ⟨countP_setF isPending h, countP_setF isRunning h⟩

theorem counts_cancel {futs : List (α × FState β ε)} {i : Nat} {x : α}
    (h : futs[i]? = some (x, .pending)) :
    nPending (setF futs i .cancelled) + 1 = nPending futs ∧
      nRunning (setF futs i .cancelled) = nRunning futs :=
  ⟨countP_setF isPending h, countP_setF isRunning h⟩

theorem nPending_kill (futs : List (α × FState β ε)) : nPending (futs.map kill) = 0 := by
  simp only [nPending, List.countP_eq_zero, List.mem_map]
  rintro _ ⟨⟨x, st⟩, _, rfl⟩
  cases st <;> simp [kill, isActive, isPending]

theorem nRunning_kill (futs : List (α × FState β ε)) : nRunning (futs.map kill) = 0 := by
  simp only [nRunning, List.countP_eq_zero, List.mem_map]
  rintro _ ⟨⟨x, st⟩, _, rfl⟩
  cases st <;> simp [kill, isActive, isRunning]

theorem nPending_append (futs : List (α × FState β ε)) (x : α) :
    nPending (futs ++ [(x, .pending)]) = nPending futs + 1 := by
  simp [nPending, isPending]

theorem nRunning_append (futs : List (α × FState β ε)) (x : α) :
    nRunning (futs ++ [(x, .pending)]) = nRunning futs := by
  simp [nRunning, isRunning]

theorem firstPending_some {futs : List (α × FState β ε)} {i : Nat} (h : firstPending futs = some i) :
    ∃ x, futs[i]? = some (x, .pending) := by
  unfold firstPending at h
  rw [List.findIdx?_eq_some_iff_getElem] at h
  obtain ⟨hi, hp, _⟩ := h
  rw [List.getElem?_eq_getElem hi]
  rcases hfi : futs[i] with ⟨x, st⟩
  rw [hfi] at hp
  cases st <;> simp [isPending] at hp
  exact ⟨x, rfl⟩

theorem headDone_some {s : St α β ε} {r : Except ε β} {rest : List Nat}
    (h : headDone s = some (r, rest)) :
    ∃ i x, s.q = i :: rest ∧ s.futs[i]? = some (x, .done r) := by
  unfold headDone at h
  split at h
  · simp at h
  · rename_i i rest' hq
    split at h
    · rename_i x r' hf
      simp at h
      obtain ⟨rfl, rfl⟩ := h
      exact ⟨i, x, hq, hf⟩
    · simp at h

/-! ## The transitions, one constructor per branch of `step` -/

inductive Next (s : St α β ε) : Tid → St α β ε → Prop where
  | pullWait (x : α) (rest : List α) (hc : s.c = .pull) (hs : s.src = x :: rest)
      (hb : s.q.length ≥ s.buffer) :
      Next s .consumer { s with src := rest, pulled := s.pulled + 1, c := .waitHead x }
  | pullSubmit (x : α) (rest : List α) (hc : s.c = .pull) (hs : s.src = x :: rest)
      (hb : ¬ s.q.length ≥ s.buffer) :
      Next s .consumer { s with src := rest, pulled := s.pulled + 1, c := .submit x }
  | pullEnd (hc : s.c = .pull) (hs : s.src = []) (he : s.ending = none) :
      Next s .consumer { s with c := .drain }
  | pullRaise (e : ε) (hc : s.c = .pull) (hs : s.src = []) (he : s.ending = some e) :
      Next s .consumer { s with c := .drainErr e }
  | waitOk (x : α) (i : Nat) (rest : List Nat) (y : α) (v : β) (hc : s.c = .waitHead x)
      (hq : s.q = i :: rest) (hf : s.futs[i]? = some (y, .done (.ok v))) :
      Next s .consumer { s with q := rest, delivered := s.delivered ++ [v], c := .yielded (some x) }
  | waitErr (x : α) (i : Nat) (rest : List Nat) (y : α) (e : ε) (hc : s.c = .waitHead x)
      (hq : s.q = i :: rest) (hf : s.futs[i]? = some (y, .done (.error e))) :
      Next s .consumer { s with q := rest, c := .exitWait (some e) false }
  | submit (x : α) (hc : s.c = .submit x) :
      Next s .consumer
        { s with futs := s.futs ++ [(x, .pending)], q := s.q ++ [s.futs.length], c := .pull }
  | drainEmpty (hc : s.c = .drain) (hq : s.q = []) :
      Next s .consumer { s with c := .exitWait none false }
  | drainOk (i : Nat) (rest : List Nat) (y : α) (v : β) (hc : s.c = .drain)
      (hq : s.q = i :: rest) (hf : s.futs[i]? = some (y, .done (.ok v))) :
      Next s .consumer { s with q := rest, delivered := s.delivered ++ [v], c := .yielded none }
  | drainErr (i : Nat) (rest : List Nat) (y : α) (e : ε) (hc : s.c = .drain)
      (hq : s.q = i :: rest) (hf : s.futs[i]? = some (y, .done (.error e))) :
      Next s .consumer { s with q := rest, c := .exitWait (some e) false }
  | errDrainEmpty (e : ε) (hc : s.c = .drainErr e) (hq : s.q = []) :
      Next s .consumer { s with c := .exitWait (some e) false }
  | errDrainOk (e : ε) (i : Nat) (rest : List Nat) (y : α) (v : β) (hc : s.c = .drainErr e)
      (hq : s.q = i :: rest) (hf : s.futs[i]? = some (y, .done (.ok v))) :
      Next s .consumer { s with q := rest, delivered := s.delivered ++ [v], c := .yieldedErr e }
  | errDrainErr (e : ε) (i : Nat) (rest : List Nat) (y : α) (e' : ε) (hc : s.c = .drainErr e)
      (hq : s.q = i :: rest) (hf : s.futs[i]? = some (y, .done (.error e'))) :
      Next s .consumer { s with q := rest, c := .exitWait (some e') false }
  | cancelEmpty (hc : s.c = .cancel) (ht : s.termKind = .cancelQueued) (hq : s.q = []) :
      Next s .consumer { s with c := .exitWait none true }
  | cancelPending (i : Nat) (rest : List Nat) (y : α) (hc : s.c = .cancel)
      (ht : s.termKind = .cancelQueued) (hq : s.q = i :: rest) (hf : s.futs[i]? = some (y, .pending)) :
      Next s .consumer { s with q := rest, futs := setF s.futs i .cancelled }
  | cancelSkip (i : Nat) (rest : List Nat) (hc : s.c = .cancel)
      (ht : s.termKind = .cancelQueued) (hq : s.q = i :: rest)
      (hf : ∀ y, s.futs[i]? ≠ some (y, .pending)) :
      Next s .consumer { s with q := rest }
  | cancelNothing (hc : s.c = .cancel) (ht : s.termKind = .nothing) :
      Next s .consumer { s with c := .exitWait none true }
  | cancelTerminate (hc : s.c = .cancel) (ht : s.termKind = .terminatePool) :
      Next s .consumer { s with futs := s.futs.map kill, c := .exitWait none true }
  | exitWaitAll (r : Option ε) (closed : Bool) (hc : s.c = .exitWait r closed)
      (hk : s.exitKind = .waitAll) (hall : s.futs.all (fun p => !isActive p.2) = true) :
      Next s .consumer { s with c := .done r closed }
  | exitKill (r : Option ε) (closed : Bool) (hc : s.c = .exitWait r closed)
      (hk : s.exitKind = .killAll) :
      Next s .consumer { s with futs := s.futs.map kill, c := .done r closed }
  | exitLeave (r : Option ε) (closed : Bool) (hc : s.c = .exitWait r closed)
      (hk : s.exitKind = .leaveRunning) :
      Next s .consumer { s with c := .done r closed }
  | exitErrKill (e : ε) (closed : Bool) (hc : s.c = .exitWait (some e) closed)
      (hk : s.exitKind = .killOnError) :
      Next s .consumer { s with futs := s.futs.map kill, c := .done (some e) closed }
  | exitErrNone (closed : Bool) (hc : s.c = .exitWait none closed)
      (hk : s.exitKind = .killOnError) :
      Next s .consumer { s with c := .done none closed }
  | resumeSubmit (x : α) (hc : s.c = .yielded (some x)) : Next s .resume { s with c := .submit x }
  | resumeDrain (hc : s.c = .yielded none) : Next s .resume { s with c := .drain }
  | resumeErr (e : ε) (hc : s.c = .yieldedErr e) : Next s .resume { s with c := .drainErr e }
  | close (x : Option α) (hc : s.c = .yielded x) : Next s .close { s with c := .cancel }
  | closeErr (e : ε) (hc : s.c = .yieldedErr e) : Next s .close { s with c := .cancel }
  | start (i : Nat) (x : α) (hn : numRunning s < s.workers) (hp : firstPending s.futs = some i)
      (hf : s.futs[i]? = some (x, .pending)) :
      Next s .start { s with futs := setF s.futs i .running, started := s.started + 1 }
  | finish (i : Nat) (x : α) (hf : s.futs[i]? = some (x, .running)) :
      Next s (.finish i) { s with futs := setF s.futs i (.done (s.f x)) }

theorem Next.of_step {s s' : St α β ε} {t : Tid} (h : step s t = some s') : Next s t s' := by
  unfold step at h
  split at h
  · split at h
    · split at h
      · split at h <;> cases h
        · exact .pullWait _ _ ‹_› ‹_› ‹_›
        · exact .pullSubmit _ _ ‹_› ‹_› ‹_›
      · split at h <;> cases h
        · exact .pullEnd ‹_› ‹_› ‹_›
        · exact .pullRaise _ ‹_› ‹_› ‹_›
    · split at h <;> cases h
      · obtain ⟨i, y, hq, hf⟩ := headDone_some ‹_›
        exact .waitOk _ i _ y _ ‹_› hq hf
      · obtain ⟨i, y, hq, hf⟩ := headDone_some ‹_›
        exact .waitErr _ i _ y _ ‹_› hq hf
    · cases h
    · cases h; exact .submit _ ‹_›
    · split at h
      · cases h; exact .drainEmpty ‹_› ‹_›
      · split at h <;> cases h
        · obtain ⟨i, y, hq, hf⟩ := headDone_some ‹_›
          exact .drainOk i _ y _ ‹_› hq hf
        · obtain ⟨i, y, hq, hf⟩ := headDone_some ‹_›
          exact .drainErr i _ y _ ‹_› hq hf
    · split at h
      · cases h; exact .errDrainEmpty _ ‹_› ‹_›
      · split at h <;> cases h
        · obtain ⟨i, y, hq, hf⟩ := headDone_some ‹_›
          exact .errDrainOk _ i _ y _ ‹_› hq hf
        · obtain ⟨i, y, hq, hf⟩ := headDone_some ‹_›
          exact .errDrainErr _ i _ y _ ‹_› hq hf
    · cases h
    · split at h
      · split at h
        · cases h; exact .cancelEmpty ‹_› ‹_› ‹_›
        · split at h <;> cases h
          · exact .cancelPending _ _ _ ‹_› ‹_› ‹_› ‹_›
          · exact .cancelSkip _ _ ‹_› ‹_› ‹_› ‹_›
      · cases h; exact .cancelNothing ‹_› ‹_›
      · cases h; exact .cancelTerminate ‹_› ‹_›
    · split at h
      · split at h <;> cases h
        exact .exitWaitAll _ _ ‹_› ‹_› ‹_›
      · cases h; exact .exitKill _ _ ‹_› ‹_›
      · cases h; exact .exitLeave _ _ ‹_› ‹_›
      · split at h <;> cases h
        · exact .exitErrKill _ _ ‹_› ‹_›
        · exact .exitErrNone _ ‹_› ‹_›
    · cases h
  · split at h <;> cases h
    · exact .resumeSubmit _ ‹_›
    · exact .resumeDrain ‹_›
    · exact .resumeErr _ ‹_›
  · split at h <;> cases h
    · exact .close _ ‹_›
    · exact .closeErr _ ‹_›
  · split at h
    · split at h <;> cases h
      obtain ⟨x, hx⟩ := firstPending_some ‹_›
      exact .start _ x ‹_› ‹_› hx
    · cases h
  · split at h <;> cases h
    exact .finish _ _ ‹_›

/-! ## Termination measure -/

def rank : CPc α β ε → Nat
  | .done _ _ => 0 | .exitWait _ _ => 1 | .cancel => 2 | .drain => 3 | .drainErr _ => 3
  | .pull => 4 | .submit _ => 4 | .yielded _ => 5 | .yieldedErr _ => 5 | .waitHead _ => 5

def held : CPc α β ε → Nat
  | .waitHead _ => 1 | .yielded (some _) => 1 | .submit _ => 1 | _ => 0

/-- A source item moves down through the stations source (8), the consumer's hand (6), pending
    future in `q` (2 + 3), running (1 + 3), finished in `q` (3), popped (0); `rank` orders the
    program points between two such moves.  The weights leave room for the rises of `rank`: a
    queue entry weighs 3 because the pop at `drain` goes up to `yielded` (rank 3 to 5); a pending
    future 2 for its two pool steps; `submit` trades the held item for a pending future and a queue
    entry (6 = 2 + 3 + 1); `pull → waitHead` takes an item in hand and raises `rank` by 1
    (8 = 6 + 1 + 1).  These steps are tight: `mu` falls by exactly 1. -/
def mu (s : St α β ε) : Nat :=
  8 * s.src.length + 6 * held s.c + 2 * nPending s.futs + nRunning s.futs + 3 * s.q.length + rank s.c

variable {w b : Nat} {ek : ExitKind} {tk : TermKind} {f : α → Except ε β} {src₀ : List α}
  {ending : Option ε} {s s' : St α β ε}

theorem mu_init : mu (init w b ek tk f src₀ ending) = 8 * src₀.length + 4 := rfl

theorem mu_next {t : Tid} (hn : Next s t s') : mu s' < mu s := by
  cases hn with
  | cancelPending i rest y hc ht hq hf =>
    obtain ⟨h1, h2⟩ := counts_cancel hf
    simp only [mu, hc, hq, List.length_cons]
    omega
  | start i x _ _ hf =>
    obtain ⟨h1, h2⟩ := counts_start hf
    simp only [mu]
    omega
  | finish i x hf =>
    obtain ⟨h1, h2⟩ := counts_finish (s.f x) hf
    simp only [mu]
    omega
  | _ =>
    simp +arith only [mu, *, rank, held, nPending_append, nRunning_append, nPending_kill, nRunning_kill,
      List.length_cons, List.length_append, List.length_nil]

theorem run_length_le_mu {sched : List Tid} (h : run s sched = some s') :
    sched.length + mu s' ≤ mu s :=
  isSched.length_le (fun _ _ _ _ hs => ⟨trivial, mu_next (.of_step hs)⟩) trivial h

/-! ## One-step evolution of a single future -/

inductive FTrans (s : St α β ε) (i : Nat) (x : α) : Tid → FState β ε → FState β ε → Prop where
  | same (t : Tid) (st : FState β ε) : FTrans s i x t st st
  | start : FTrans s i x .start .pending .running
  | finish : FTrans s i x (.finish i) .running (.done (s.f x))
  | cancel (hc : s.c = .cancel) (ht : s.termKind = .cancelQueued) :
      FTrans s i x .consumer .pending .cancelled
  | kill (st : FState β ε)
      (hk : s.exitKind = .killAll ∨ s.exitKind = .killOnError ∨ s.termKind = .terminatePool)
      (ha : isActive st = true) : FTrans s i x .consumer st .cancelled

theorem FTrans.eq_of_idle {t : Tid} {i : Nat} {x : α} {st st' : FState β ε}
    (h : FTrans s i x t st st') (ha : isActive st = false) : st' = st := by
  cases h with
  | same => rfl
  | kill _ _ ha' => rw [ha] at ha'; cases ha'
  | _ => cases ha

theorem ftrans_setF {t : Tid} {i j : Nat} {x y : α} {st old new : FState β ε}
    (hi : s.futs[i]? = some (x, st)) (hf : s.futs[j]? = some (y, old))
    (htr : i = j → x = y → st = old → FTrans s i x t st new) :
    ∃ st', (setF s.futs j new)[i]? = some (x, st') ∧ FTrans s i x t st st' := by
  rw [getElem?_setF hf]
  by_cases hij : i = j
  · subst hij
    rw [hi] at hf; injection hf with hf; injection hf with h1 h2
    exact ⟨new, by simp [h1], htr rfl h1 h2⟩
  · exact ⟨st, by simp [hij, hi], .same ..⟩

theorem ftrans_kill {i : Nat} {x : α} {st : FState β ε} (hi : s.futs[i]? = some (x, st))
    (hk : s.exitKind = .killAll ∨ s.exitKind = .killOnError ∨ s.termKind = .terminatePool) :
    ∃ st', (s.futs.map kill)[i]? = some (x, st') ∧ FTrans s i x .consumer st st' := by
  cases ha : isActive st
  · exact ⟨st, by simp [hi, kill, ha], .same ..⟩
  · exact ⟨.cancelled, by simp [hi, kill, ha], .kill _ hk ha⟩

theorem futs_next {t : Tid} {i : Nat} {x : α} {st : FState β ε}
    (hn : Next s t s') (hi : s.futs[i]? = some (x, st)) :
    ∃ st', s'.futs[i]? = some (x, st') ∧ FTrans s i x t st st' := by
  cases hn with
  | submit y hc => exact ⟨st, by simp [List.getElem?_append_left (List.lt_of_getElem?_eq_some hi), hi], .same ..⟩
  | cancelPending j rest y hc ht hq hf => exact ftrans_setF hi hf fun _ _ hst => hst ▸ .cancel hc ht
  | cancelTerminate hc ht => exact ftrans_kill hi (.inr (.inr ht))
  | exitKill r cl hc hk => exact ftrans_kill hi (.inl hk)
  | exitErrKill e cl hc hk => exact ftrans_kill hi (.inr (.inl hk))
  | start j y _ _ hf => exact ftrans_setF hi hf fun _ _ hst => hst ▸ .start
  | finish j y hf => exact ftrans_setF hi hf fun hij hxy hst => by subst hij hxy hst; exact .finish
  | _ => exact ⟨st, hi, .same ..⟩

theorem idle_step {t : Tid} {i : Nat} {x : α} {st : FState β ε}
    (h : step s t = some s') (hi : s.futs[i]? = some (x, st)) (ha : isActive st = false) :
    s'.futs[i]? = some (x, st) := by
  obtain ⟨st', h1, htr⟩ := futs_next (.of_step h) hi
  rwa [htr.eq_of_idle ha] at h1

theorem fresh_pending {t : Tid} (hn : Next s t s') :
    ∀ (i : Nat) x st', s'.futs[i]? = some (x, st') → s.futs[i]? = none → st' = .pending := by
  have hold : ∀ (j : Nat) y st, s.futs[j]? = some (y, st) → s.futs[j]? = none → st = .pending :=
    fun _ _ _ hj h0 => nomatch h0.symm.trans hj
  cases hn with
  | submit y hc => exact forall_append hold (fun _ => rfl)
  | cancelPending j rest y hc ht hq hf | start j y _ _ hf | finish j y hf =>
    exact forall_setF (fun j y st hj _ => hold j y st hj) hf (fun h0 => nomatch h0.symm.trans hf)
  | cancelTerminate | exitKill | exitErrKill =>
    exact forall_kill (fun j y st hj _ => hold j y st hj) (fun j y old hj _ h0 => nomatch h0.symm.trans hj)
  | _ => exact hold

/-! ## The inductive invariant -/

/-- the program points of the `try` body before any exception and any `close()`: there `q` and
    the delivered results still account for every future (`Live`) -/
def live : CPc α β ε → Bool
  | .pull | .waitHead _ | .yielded _ | .submit _ | .drain | .drainErr _ | .yieldedErr _ => true
  | _ => false

/-- no work item waits in the executor's queue: the pool will start nothing -/
def NoPending (futs : List (α × FState β ε)) : Prop :=
  ∀ (i : Nat) x st, futs[i]? = some (x, st) → isPending st = false
/-- no work item waits or executes: no user code runs any more -/
def NoActive (futs : List (α × FState β ε)) : Prop :=
  ∀ (i : Nat) x st, futs[i]? = some (x, st) → isActive st = false
/-- neither `Future.cancel()` nor a pool `terminate()` has discarded anything -/
def NoCancelled (futs : List (α × FState β ε)) : Prop :=
  ∀ (i : Nat) x st, futs[i]? = some (x, st) → st ≠ .cancelled
/-- the first `k` futures (those already popped from `q`) are neither pending nor running -/
def PoppedIdle (futs : List (α × FState β ε)) (k : Nat) : Prop :=
  ∀ (i : Nat) x st, futs[i]? = some (x, st) → i < k → isActive st = false

/-- the exits after which nothing is pending or running once control is back at the caller.  The last two
    disjuncts (normal exhaustion, `close` with `terminatePool`) need no help from `__exit__`: they hold for every
    flavour, even `leaveRunning` -/
def QuiescentExit (ek : ExitKind) (tk : TermKind) (r : Option ε) (closed : Bool) : Prop :=
  ek = .waitAll ∨ ek = .killAll ∨ (ek = .killOnError ∧ r ≠ none) ∨ (r = none ∧ closed = false) ∨
    (closed = true ∧ tk = .terminatePool)

theorem quiescentExit_of_flavour {r : Option ε} {cl : Bool} (hk : ek ≠ .leaveRunning)
    (hk2 : ek = .killOnError → tk = .terminatePool) : QuiescentExit ek tk r cl := by
  cases ek with
  | waitAll => exact .inl rfl
  | killAll => exact .inr (.inl rfl)
  | leaveRunning => exact absurd rfl hk
  | killOnError =>
    cases r with
    | some e => exact .inr (.inr (.inl ⟨rfl, by simp⟩))
    | none =>
      cases cl with
      | false => exact .inr (.inr (.inr (.inl ⟨rfl, rfl⟩)))
      | true => exact .inr (.inr (.inr (.inr ⟨rfl, hk2 rfl⟩)))

/-- what is known when an exception / normal end / close travels out of the `try` block -/
structure ExitInv (tk : TermKind) (f : α → Except ε β) (src₀ : List α) (ending : Option ε)
    (s : St α β ε) (r : Option ε) (closed : Bool) : Prop where
  /-- after `close`: the cancel loop of `terminate` has emptied `q`, which held every pending
      future; `ex.terminate()` discards every outstanding one -/
  onClose : closed = true →
    (tk ≠ .nothing → NoPending s.futs) ∧ (tk = .terminatePool → NoActive s.futs)
  /-- without `close`: a normal end has delivered everything; an exception is the source's own,
      after everything was delivered, or that of the first item not delivered -/
  result : closed = false →
    match r with
    | none => s.delivered.length = src₀.length ∧ NoActive s.futs
    | some e => (ending = some e ∧ s.src = [] ∧ s.delivered.length = src₀.length) ∨
        src₀[s.delivered.length]?.map f = some (.error e)

def PhaseInv (b : Nat) (ek : ExitKind) (tk : TermKind) (f : α → Except ε β) (src₀ : List α)
    (ending : Option ε) (s : St α β ε) : Prop :=
  match s.c with
  | .pull => s.pulled = s.futs.length
  | .waitHead x => s.pulled = s.futs.length + 1 ∧ src₀[s.futs.length]? = some x ∧ b ≤ s.q.length
  | .yielded (some x) => s.pulled = s.futs.length + 1 ∧ src₀[s.futs.length]? = some x ∧ s.q.length < b
  | .yielded none => s.pulled = s.futs.length ∧ s.src = []
  | .submit x => s.pulled = s.futs.length + 1 ∧ src₀[s.futs.length]? = some x ∧ s.q.length < b
  | .drain => s.pulled = s.futs.length ∧ s.src = []
  | .drainErr e => s.pulled = s.futs.length ∧ s.src = [] ∧ ending = some e
  | .yieldedErr e => s.pulled = s.futs.length ∧ s.src = [] ∧ ending = some e
  | .cancel => True
  | .exitWait r closed => ExitInv tk f src₀ ending s r closed
  | .done r closed => ExitInv tk f src₀ ending s r closed ∧ (QuiescentExit ek tk r closed → NoActive s.futs)

structure Core (w b : Nat) (ek : ExitKind) (tk : TermKind) (f : α → Except ε β) (src₀ : List α)
    (ending : Option ε) (s : St α β ε) : Prop where
  /-- the six parameters of `init` are never written -/
  hw : s.workers = w
  hb : s.buffer = b
  hek : s.exitKind = ek
  htk : s.termKind = tk
  hf : s.f = f
  hend : s.ending = ending
  /-- the argument of future `i` is the `i`-th source item -/
  args : ∀ (i : Nat) x st, s.futs[i]? = some (x, st) → src₀[i]? = some x
  /-- a finished future holds `f` of its argument -/
  doneVal : ∀ (i : Nat) x st, s.futs[i]? = some (x, st) → ∀ r, st = .done r → r = f x
  /-- `q = [k, k + 1, …, futs.length - 1]`: the futures not yet popped, in submission order -/
  qRange : ∃ k, s.futs.length = k + s.q.length ∧ s.q = List.range' k s.q.length
  /-- `if q.qsize() >= buffer_size: yield result(q.get())` before every `q.put` -/
  qBound : s.q.length ≤ b
  /-- the delivered values are `f` of a prefix of the source, all `.ok` -/
  deliv : (src₀.take s.delivered.length).map f = s.delivered.map .ok
  /-- every pending future is still in `q` -/
  pendInQ : ∀ (i : Nat) x st, s.futs[i]? = some (x, st) → st = .pending → s.futs.length ≤ i + s.q.length
  /-- every element taken from the source is submitted, except the one `ele` the consumer may
      hold between `next(generator)` and `submit` -/
  pulledGe : s.futs.length ≤ s.pulled
  pulledLe : s.pulled ≤ s.futs.length + 1
  /-- `pulled` counts the `next(generator)` calls that returned an element; `srcLen` is `srcEq` in
      the form `omega` reads, with `pulled ≤ src₀.length` -/
  srcEq : s.src = src₀.drop s.pulled
  srcLen : s.pulled + s.src.length = src₀.length
  /-- the read-ahead bound of C07: at most `buffer_size` futures are submitted beyond what was
      delivered -/
  bufInv : s.futs.length ≤ s.delivered.length + b
  /-- the pool starts pending work items only, each once -/
  startedLe : s.started + nPending s.futs ≤ s.futs.length
  /-- the pool runs at most `max_workers` work items at a time -/
  runLe : nRunning s.futs ≤ w

/-- before any error/close: everything popped was delivered, nothing is cancelled, and the
    popped futures are finished -/
def Live (s : St α β ε) : Prop :=
  s.futs.length = s.delivered.length + s.q.length ∧ NoCancelled s.futs ∧
    PoppedIdle s.futs s.delivered.length

structure Inv (w b : Nat) (ek : ExitKind) (tk : TermKind) (f : α → Except ε β) (src₀ : List α)
    (ending : Option ε) (s : St α β ε) : Prop extends Core w b ek tk f src₀ ending s where
  liveInv : live s.c = true → Live s
  phase : PhaseInv b ek tk f src₀ ending s

theorem Inv.liveAt {c : CPc α β ε} (hI : Inv w b ek tk f src₀ ending s) (hc : s.c = c)
    (hl : live c = true := by rfl) : Live s :=
  hI.liveInv (hc ▸ hl)

theorem Inv.done {r : Option ε} {cl : Bool} (hI : Inv w b ek tk f src₀ ending s)
    (hc : s.c = .done r cl) :
    ExitInv tk f src₀ ending s r cl ∧ (QuiescentExit ek tk r cl → NoActive s.futs) := by
  have := hI.phase
  rwa [PhaseInv, hc] at this

theorem inv_init : Inv w b ek tk f src₀ ending (init w b ek tk f src₀ ending) := by
  refine ⟨?_, ?_, ?_⟩
  · constructor <;> simp [init, nPending, nRunning]
  · simp [init, Live, NoCancelled, PoppedIdle]
  · simp [init, PhaseInv]

theorem noActive_kill (futs : List (α × FState β ε)) : NoActive (futs.map kill) :=
  forall_kill (fun _ _ _ _ ha => ha) (fun _ _ _ _ _ => rfl)

theorem NoActive.noPending {futs : List (α × FState β ε)} (h : NoActive futs) : NoPending futs := by
  intro j y st hj
  have := h j y st hj
  cases st <;> simp_all [isActive, isPending]

theorem ExitInv_congr {s s' : St α β ε} {r : Option ε} {closed : Bool} (hsrc : s'.src = s.src)
    (hd : s'.delivered = s.delivered) (hpend : NoPending s.futs → NoPending s'.futs)
    (hact : NoActive s.futs → NoActive s'.futs) (h : ExitInv tk f src₀ ending s r closed) :
    ExitInv tk f src₀ ending s' r closed := by
  refine ⟨fun a => ⟨fun c => hpend ((h.onClose a).1 c), fun c => hact ((h.onClose a).2 c)⟩, fun a => ?_⟩
  have h4 := h.result a
  cases r with
  | none => exact ⟨hd ▸ h4.1, hact h4.2⟩
  | some e => rw [hsrc, hd]; exact h4

theorem PhaseInv.setFuts {futs' : List (α × FState β ε)} {st' : Nat}
    (h : PhaseInv b ek tk f src₀ ending s) (hl : futs'.length = s.futs.length)
    (hpend : NoPending s.futs → NoPending futs') (hact : NoActive s.futs → NoActive futs') :
    PhaseInv b ek tk f src₀ ending { s with futs := futs', started := st' } := by
  unfold PhaseInv at *
  simp only [hl]
  split <;> rename_i heq <;> rw [heq] at h <;>
    first
    | exact h
    | exact ExitInv_congr (s := s) rfl rfl hpend hact h
    | exact ⟨ExitInv_congr (s := s) rfl rfl hpend hact h.1, fun hq => hact (h.2 hq)⟩

/-- without the help of `__exit__` (or of the `killOnError` terminate), quiescence after an exit
    comes from `ExitInv`: normal exhaustion, or `close` with `terminatePool` -/
theorem quiescent_of_exitInv {r : Option ε} {closed : Bool}
    (h : ExitInv tk f src₀ ending s r closed) (h1 : ek ≠ .waitAll) (h2 : ek ≠ .killAll)
    (h3 : ¬ (ek = .killOnError ∧ r ≠ none)) : QuiescentExit ek tk r closed → NoActive s.futs := by
  rintro (hq | hq | hq | ⟨rfl, rfl⟩ | ⟨rfl, hq⟩)
  · exact absurd hq h1
  · exact absurd hq h2
  · exact absurd hq h3
  · exact (h.result rfl).2
  · exact (h.onClose rfl).2 hq

theorem PoppedIdle.pop {futs : List (α × FState β ε)} {k i : Nat} {y : α} {r : Except ε β}
    (h : PoppedIdle futs k) (hf : futs[i]? = some (y, .done r)) (hk : k = i) :
    PoppedIdle futs (k + 1) := by
  intro j z st hj hlt
  by_cases hji : j = i
  · subst hji; rw [hf] at hj; injection hj with hj; injection hj with _ h2; subst h2; rfl
  · exact h j z st hj (by omega)

theorem PoppedIdle.noActive {futs : List (α × FState β ε)} {k : Nat}
    (h : PoppedIdle futs k) (hk : futs.length ≤ k) : NoActive futs := by
  intro j z st hj
  have := List.lt_of_getElem?_eq_some hj
  exact h j z st hj (by omega)

/-! ### preservation

`Core` does not mention `s.c`, so each lemma below leaves the successor's program point `c'` free and serves
all steps that change the data in that way. -/

theorem Core.pull (h : Core w b ek tk f src₀ ending s) (c' : CPc α β ε) {x : α} {rest : List α}
    (hs : s.src = x :: rest) (hp : s.pulled = s.futs.length) :
    Core w b ek tk f src₀ ending { s with src := rest, pulled := s.pulled + 1, c := c' } ∧
      src₀[s.futs.length]? = some x := by
  have hx : src₀[s.pulled]? = some x := by rw [← List.head?_drop, ← h.srcEq, hs]; rfl
  have hrest : rest = src₀.drop (s.pulled + 1) := by rw [← List.tail_drop, ← h.srcEq, hs]; rfl
  have hsl := h.srcLen
  rw [hs, List.length_cons] at hsl
  refine ⟨{ h with pulledGe := Nat.le_succ_of_le h.pulledGe, pulledLe := Nat.succ_le_succ (Nat.le_of_eq hp),
                   srcEq := hrest, srcLen := ?_ }, hp ▸ hx⟩
  dsimp only; omega

theorem Core.qHead (h : Core w b ek tk f src₀ ending s) {i : Nat} {rest : List Nat} (hq : s.q = i :: rest) :
    s.futs.length = i + 1 + rest.length ∧ rest = List.range' (i + 1) rest.length := by
  obtain ⟨k, hk, hr⟩ := h.qRange
  rw [hq] at hk hr
  simp only [List.length_cons, List.range'_succ, List.cons.injEq] at hk hr
  obtain ⟨rfl, hr⟩ := hr
  exact ⟨by omega, hr⟩

theorem Core.pop (h : Core w b ek tk f src₀ ending s) (c' : CPc α β ε) {i : Nat} {rest : List Nat}
    (hq : s.q = i :: rest) (hnp : ∀ y, s.futs[i]? ≠ some (y, .pending)) :
    Core w b ek tk f src₀ ending { s with q := rest, c := c' } := by
  obtain ⟨hi, hr⟩ := h.qHead hq
  have hq' : s.q.length = rest.length + 1 := by rw [hq]; rfl
  have hqb := h.qBound
  refine { h with qRange := ⟨i + 1, hi, hr⟩, qBound := ?_, pendInQ := ?_ }
  · dsimp only; omega
  · intro j z st hj hst
    have h1 := h.pendInQ j z st hj hst
    have : j ≠ i := by rintro rfl; exact hnp z (hst ▸ hj)
    dsimp only; omega

theorem Core.deliver (h : Core w b ek tk f src₀ ending s) (c' : CPc α β ε) {x : α} {v : β}
    (hx : src₀[s.delivered.length]? = some x) (hv : f x = .ok v) :
    Core w b ek tk f src₀ ending { s with delivered := s.delivered ++ [v], c := c' } :=
  { h with
    deliv := by simp [List.take_add_one, h.deliv, hx, hv]
    bufInv := by have := h.bufInv; simp only [List.length_append, List.length_singleton]; omega }

theorem Core.head (h : Core w b ek tk f src₀ ending s) (hl : Live s) {i : Nat} {rest : List Nat} {y : α}
    {r : Except ε β} (hq : s.q = i :: rest) (hf : s.futs[i]? = some (y, .done r)) :
    src₀[s.delivered.length]? = some y ∧ f y = r := by
  have hi := (h.qHead hq).1
  have hq' : s.q.length = rest.length + 1 := by rw [hq]; rfl
  have hiD : i = s.delivered.length := by have := hl.1; omega
  exact ⟨hiD ▸ h.args _ _ _ hf, (h.doneVal _ _ _ hf _ rfl).symm⟩

theorem Live.pop (hl : Live s) (h : Core w b ek tk f src₀ ending s) (c' : CPc α β ε) {i : Nat}
    {rest : List Nat} {y : α} {v : β} (hq : s.q = i :: rest) (hf : s.futs[i]? = some (y, .done (.ok v))) :
    Live { s with q := rest, delivered := s.delivered ++ [v], c := c' } := by
  obtain ⟨hlen, hnc, hpi⟩ := hl
  have hi := (h.qHead hq).1
  have hq' : s.q.length = rest.length + 1 := by rw [hq]; rfl
  refine ⟨?_, hnc, ?_⟩ <;> simp only [List.length_append, List.length_singleton]
  · omega
  · exact hpi.pop hf (by omega)

theorem Core.submit (h : Core w b ek tk f src₀ ending s) (hl : Live s) (c' : CPc α β ε) {x : α}
    (hp : s.pulled = s.futs.length + 1) (hx : src₀[s.futs.length]? = some x) (hqb : s.q.length < b) :
    Core w b ek tk f src₀ ending
      { s with futs := s.futs ++ [(x, .pending)], q := s.q ++ [s.futs.length], c := c' } := by
  have hlen := hl.1
  obtain ⟨k, hk, hr⟩ := h.qRange
  refine { h with args := forall_append h.args hx, doneVal := forall_append h.doneVal (fun r hr => nomatch hr),
                  qRange := ⟨k, ?_, ?_⟩, qBound := ?_, pendInQ := ?_,
                  pulledGe := ?_, pulledLe := ?_, bufInv := ?_, startedLe := ?_, runLe := ?_ }
  · simp; omega
  · simp only [List.length_append, List.length_singleton]
    rw [List.range'_1_concat, ← hr, ← hk]
  · simp; omega
  · refine forall_append (fun j z st hj hst => ?_) (fun _ => ?_)
    · have := h.pendInQ j z st hj hst; simp; omega
    · simp
  · simp; omega
  · simp; omega
  · simp; omega
  · have := h.startedLe; simp [nPending_append]; omega
  · simpa [nRunning_append] using h.runLe

theorem Live.submit (hl : Live s) (c' : CPc α β ε) (x : α) :
    Live { s with futs := s.futs ++ [(x, .pending)], q := s.q ++ [s.futs.length], c := c' } := by
  obtain ⟨hlen, hnc, hpi⟩ := hl
  refine ⟨by simp; omega, forall_append hnc (by simp), ?_⟩
  exact forall_append hpi (fun (hlt : s.futs.length < s.delivered.length) => by omega)

theorem Core.setF (h : Core w b ek tk f src₀ ending s) (c' : CPc α β ε) {i : Nat} {x : α}
    {old new : FState β ε} {st' : Nat} (hf : s.futs[i]? = some (x, old)) (hnew : new ≠ .pending)
    (hdone : ∀ r, new = .done r → r = f x)
    (hst : st' + nPending (setF s.futs i new) ≤ s.futs.length) (hrun : nRunning (setF s.futs i new) ≤ w) :
    Core w b ek tk f src₀ ending { s with futs := setF s.futs i new, started := st', c := c' } :=
  { h with
    args := forall_setF (fun j z st hj _ => h.args j z st hj) hf (h.args _ _ _ hf)
    doneVal := forall_setF (fun j z st hj _ => h.doneVal j z st hj) hf hdone
    qRange := by simpa using h.qRange
    pendInQ := forall_setF (fun j z st hj _ hst => by simpa using h.pendInQ j z st hj hst) hf
      (fun hp => absurd hp hnew)
    pulledGe := by simpa using h.pulledGe
    pulledLe := by simpa using h.pulledLe
    bufInv := by simpa using h.bufInv
    startedLe := by simpa using hst
    runLe := hrun }

theorem Core.kill (h : Core w b ek tk f src₀ ending s) (c' : CPc α β ε) :
    Core w b ek tk f src₀ ending { s with futs := s.futs.map kill, c := c' } :=
  { h with
    args := forall_kill (fun j z st hj _ => h.args j z st hj) (fun j z old hj _ => h.args j z old hj)
    doneVal := forall_kill (fun j z st hj _ => h.doneVal j z st hj) (fun j z old _ _ r hr => nomatch hr)
    qRange := by simpa using h.qRange
    pendInQ := fun j z st hj hst => by
      have := noActive_kill _ j z st hj
      subst hst; simp [isActive] at this
    pulledGe := by simpa using h.pulledGe
    pulledLe := by simpa using h.pulledLe
    bufInv := by simpa using h.bufInv
    startedLe := by have := h.startedLe; simp [nPending_kill]; omega
    runLe := by simp [nRunning_kill] }

theorem Core.deliv_all (h : Core w b ek tk f src₀ ending s) (hlen : s.delivered.length = src₀.length) :
    src₀.map f = s.delivered.map .ok := by
  have := h.deliv
  rwa [hlen, List.take_length] at this

theorem Core.drained (h : Core w b ek tk f src₀ ending s) (hl : Live s) (hq : s.q = [])
    (hp : s.pulled = s.futs.length) (hs : s.src = []) :
    s.delivered.length = src₀.length ∧ NoActive s.futs := by
  have h1 := hl.1
  have h2 := h.srcLen
  rw [hq, List.length_nil] at h1
  rw [hs, List.length_nil] at h2
  exact ⟨by omega, hl.2.2.noActive (by omega)⟩

theorem Live.setF (hl : Live s) {i : Nat} {x : α} {old new : FState β ε} {st' : Nat}
    (hf : s.futs[i]? = some (x, old)) (hnew : new ≠ .cancelled)
    (hidle : i < s.delivered.length → isActive new = false) :
    Live { s with futs := setF s.futs i new, started := st' } :=
  ⟨by simpa using hl.1, forall_setF (fun j z st hj _ => hl.2.1 j z st hj) hf hnew,
    forall_setF (fun j z st hj _ => hl.2.2 j z st hj) hf hidle⟩

theorem Core.setC (h : Core w b ek tk f src₀ ending s) (c' : CPc α β ε) :
    Core w b ek tk f src₀ ending { s with c := c' } :=
  { h with }

theorem ExitInv.setC {r : Option ε} {cl : Bool} (h : ExitInv tk f src₀ ending s r cl) (c' : CPc α β ε) :
    ExitInv tk f src₀ ending { s with c := c' } r cl :=
  { h with }

theorem Inv.next {t : Tid} (hI : Inv w b ek tk f src₀ ending s) (hn : Next s t s') :
    Inv w b ek tk f src₀ ending s' := by
  have hph := hI.phase
  cases hn with
  | pullWait x rest hc hs hb =>
    simp only [PhaseInv, hc] at hph
    obtain ⟨hcore, hx⟩ := hI.toCore.pull (.waitHead x) hs hph
    exact { toCore := hcore, liveInv := fun _ => hI.liveAt hc,
            phase := ⟨congrArg (· + 1) hph, hx, hI.hb ▸ hb⟩ }
  | pullSubmit x rest hc hs hb =>
    simp only [PhaseInv, hc] at hph
    obtain ⟨hcore, hx⟩ := hI.toCore.pull (.submit x) hs hph
    exact { toCore := hcore, liveInv := fun _ => hI.liveAt hc,
            phase := ⟨congrArg (· + 1) hph, hx, hI.hb ▸ Nat.lt_of_not_le hb⟩ }
  | pullEnd hc hs he =>
    simp only [PhaseInv, hc] at hph
    exact { toCore := hI.setC _, liveInv := fun _ => hI.liveAt hc, phase := ⟨hph, hs⟩ }
  | pullRaise e hc hs he =>
    simp only [PhaseInv, hc] at hph
    exact { toCore := hI.setC _, liveInv := fun _ => hI.liveAt hc, phase := ⟨hph, hs, hI.hend ▸ he⟩ }
  | waitOk x i rest y v hc hq hf =>
    simp only [PhaseInv, hc] at hph
    have hl := hI.liveAt hc
    obtain ⟨hy, hv⟩ := hI.head hl hq hf
    have hq' : s.q.length = rest.length + 1 := by rw [hq]; rfl
    exact { toCore := (hI.toCore.pop s.c hq (fun z hz => nomatch hf.symm.trans hz)).deliver _ hy hv,
            liveInv := fun _ => hl.pop hI.toCore _ hq hf,
            phase := ⟨hph.1, hph.2.1, show rest.length < b by have := hI.qBound; omega⟩ }
  | drainOk i rest y v hc hq hf | errDrainOk _ i rest y v hc hq hf =>
    simp only [PhaseInv, hc] at hph
    have hl := hI.liveAt hc
    obtain ⟨hy, hv⟩ := hI.head hl hq hf
    exact { toCore := (hI.toCore.pop s.c hq (fun z hz => nomatch hf.symm.trans hz)).deliver _ hy hv,
            liveInv := fun _ => hl.pop hI.toCore _ hq hf, phase := hph }
  | waitErr _ i rest y e hc hq hf | drainErr i rest y e hc hq hf | errDrainErr _ i rest y e hc hq hf =>
    obtain ⟨hy, hv⟩ := hI.head (hI.liveAt hc) hq hf
    exact { toCore := hI.toCore.pop _ hq (fun z hz => nomatch hf.symm.trans hz), liveInv := (nomatch ·),
            phase := { onClose := (nomatch ·), result := fun _ => .inr (by rw [hy]; exact congrArg some hv) } }
  | submit x hc =>
    simp only [PhaseInv, hc] at hph
    have hl := hI.liveAt hc
    exact { toCore := hI.toCore.submit hl .pull hph.1 hph.2.1 hph.2.2, liveInv := fun _ => hl.submit _ _,
            phase := by simp [PhaseInv, hph.1] }
  | drainEmpty hc hq =>
    simp only [PhaseInv, hc] at hph
    have hd := hI.drained (hI.liveAt hc) hq hph.1 hph.2
    exact { toCore := hI.setC _, liveInv := (nomatch ·),
            phase := { onClose := (nomatch ·), result := fun _ => hd } }
  | errDrainEmpty e hc hq =>
    simp only [PhaseInv, hc] at hph
    have hd := hI.drained (hI.liveAt hc) hq hph.1 hph.2.1
    exact { toCore := hI.setC _, liveInv := (nomatch ·),
            phase := { onClose := (nomatch ·), result := fun _ => .inl ⟨hph.2.2, hph.2.1, hd.1⟩ } }
  | cancelEmpty hc ht hq =>
    refine { toCore := hI.setC _, liveInv := (nomatch ·),
             phase := { onClose := fun _ => ⟨fun _ j z st hj => ?_, fun htp => ?_⟩, result := (nomatch ·) } }
    · -- a pending future would still be in `q`
      cases st <;> try rfl
      have h1 := hI.pendInQ j z _ hj rfl
      have h2 : j < s.futs.length := List.lt_of_getElem?_eq_some hj
      rw [hq, List.length_nil] at h1; omega
    · rw [← hI.htk, ht] at htp; cases htp
  | cancelPending i rest y hc ht hq hf =>
    obtain ⟨h1, h2⟩ := counts_cancel hf
    have hcore := hI.toCore.setF s.c hf (new := .cancelled) (st' := s.started) (by simp) (fun r hr => nomatch hr)
      (by have := hI.startedLe; omega) (h2 ▸ hI.runLe)
    exact { toCore := hcore.pop s.c hq (fun z hz => by simp [getElem?_setF hf] at hz),
            liveInv := fun h => (by rw [hc] at h; cases h), phase := by simp only [PhaseInv, hc] }
  | cancelSkip i rest hc ht hq hf =>
    exact { toCore := hI.toCore.pop s.c hq hf, liveInv := fun h => (by rw [hc] at h; cases h),
            phase := by simp only [PhaseInv, hc] }
  | cancelNothing hc ht =>
    refine { toCore := hI.setC _, liveInv := (nomatch ·),
             phase := { onClose := fun _ => ⟨fun hne => ?_, fun htp => ?_⟩, result := (nomatch ·) } }
    · rw [← hI.htk] at hne; exact absurd ht hne
    · rw [← hI.htk, ht] at htp; cases htp
  | cancelTerminate hc ht =>
    exact { toCore := hI.toCore.kill _, liveInv := (nomatch ·),
            phase := { onClose := fun _ => ⟨fun _ => (noActive_kill _).noPending, fun _ => noActive_kill _⟩,
                       result := (nomatch ·) } }
  | exitWaitAll r closed hc hk hall =>
    simp only [PhaseInv, hc] at hph
    refine { toCore := hI.setC _, liveInv := (nomatch ·), phase := ⟨hph.setC _, fun _ j z st hj => ?_⟩ }
    simpa using List.all_eq_true.mp hall _ (List.mem_of_getElem? hj)
  | exitKill r closed hc hk | exitErrKill e closed hc hk =>
    simp only [PhaseInv, hc] at hph
    exact { toCore := hI.toCore.kill _, liveInv := (nomatch ·),
            phase := ⟨ExitInv_congr (s := s) rfl rfl (fun _ => (noActive_kill _).noPending)
              (fun _ => noActive_kill _) hph, fun _ => noActive_kill _⟩ }
  | exitLeave r closed hc hk =>
    simp only [PhaseInv, hc] at hph
    have hk' : ek = .leaveRunning := hI.hek ▸ hk
    exact { toCore := hI.setC _, liveInv := (nomatch ·),
            phase := ⟨hph.setC _,
              quiescent_of_exitInv (s := s) hph (by simp [hk']) (by simp [hk']) (by simp [hk'])⟩ }
  | exitErrNone closed hc hk =>
    simp only [PhaseInv, hc] at hph
    have hk' : ek = .killOnError := hI.hek ▸ hk
    exact { toCore := hI.setC _, liveInv := (nomatch ·),
            phase := ⟨hph.setC _,
              quiescent_of_exitInv (s := s) hph (by simp [hk']) (by simp [hk']) (by simp)⟩ }
  | resumeSubmit x hc | resumeDrain hc | resumeErr e hc =>
    simp only [PhaseInv, hc] at hph
    exact { toCore := hI.setC _, liveInv := fun _ => hI.liveAt hc, phase := hph }
  | close x hc | closeErr e hc =>
    exact { toCore := hI.setC _, liveInv := (nomatch ·), phase := trivial }
  | start i x hnr _ hf =>
    obtain ⟨h1, h2⟩ := counts_start hf
    rw [numRunning_eq, hI.hw] at hnr
    have hcore := hI.toCore.setF s.c hf (new := .running) (st' := s.started + 1) (by simp)
      (fun r hr => nomatch hr) (by have := hI.startedLe; omega) (by omega)
    refine { toCore := hcore, liveInv := fun hl => (hI.liveInv hl).setF hf (by simp) (fun hlt => ?_),
             phase := hph.setFuts (by simp) (fun hp => ?_) (fun ha => ?_) }
    · -- a pending future is still in `q`, so it is not among the delivered ones
      have := hI.pendInQ _ _ _ hf rfl; have := (hI.liveInv hl).1; omega
    · exact forall_setF (fun j z st hj _ => hp j z st hj) hf (by simp [isPending])
    · have := ha _ _ _ hf; simp [isActive] at this
  | finish i x hf =>
    obtain ⟨h1, h2⟩ := counts_finish (s.f x) hf
    have hcore := hI.toCore.setF s.c hf (new := .done (s.f x)) (st' := s.started) (by simp)
      (fun r hr => by injection hr with hr; rw [← hr, hI.hf]) (by have := hI.startedLe; omega)
      (by have := hI.runLe; omega)
    refine { toCore := hcore, liveInv := fun hl => (hI.liveInv hl).setF hf (by simp) (fun _ => rfl),
             phase := hph.setFuts (by simp) (fun hp => ?_) (fun ha => ?_) }
    · exact forall_setF (fun j z st hj _ => hp j z st hj) hf (by simp [isPending])
    · exact forall_setF (fun j z st hj _ => ha j z st hj) hf (by simp [isActive])

theorem inv_reachable (h : Reachable w b ek tk f src₀ ending s) : Inv w b ek tk f src₀ ending s := by
  obtain ⟨sched, hs⟩ := h
  exact isSched.inv (fun _ _ _ hI hs => hI.next (.of_step hs)) inv_init hs

/-! ## Deadlock freedom -/

theorem pool_can_move (hw : 1 ≤ s.workers)
    (h : ∃ (i : Nat) (x : α) (st : FState β ε), s.futs[i]? = some (x, st) ∧ isActive st = true) :
    (∃ s', step s .start = some s') ∨ (∃ i s', step s (.finish i) = some s') := by
  by_cases hr : ∃ (j : Nat) (y : α), s.futs[j]? = some (y, .running)
  · obtain ⟨j, y, hj⟩ := hr
    exact .inr ⟨j, by rw [step, hj]; exact ⟨_, rfl⟩⟩
  · obtain ⟨i, x, st, hi, ha⟩ := h
    have hnr : numRunning s = 0 := by
      rw [numRunning_eq, nRunning, List.countP_eq_zero]
      rintro ⟨y, st'⟩ hmem hrun
      obtain ⟨j, hj⟩ := List.mem_iff_getElem?.mp hmem
      cases st' with
      | running => exact hr ⟨j, y, hj⟩
      | _ => cases hrun
    cases hfp : firstPending s.futs with
    | none =>
      have := List.findIdx?_eq_none_iff.mp hfp _ (List.mem_of_getElem? hi)
      cases st with
      | pending => cases this
      | running => exact absurd ⟨i, x, hi⟩ hr
      | _ => cases ha
    | some k => exact .inl (by rw [step, if_pos (by omega), hfp]; exact ⟨_, rfl⟩)

theorem head_done (hI : Inv w b ek tk f src₀ ending s) (hl : Live s)
    (hna : NoActive s.futs) (hq : s.q ≠ []) : ∃ r rest, headDone s = some (r, rest) := by
  cases hq' : s.q with
  | nil => exact absurd hq' hq
  | cons i rest =>
    have hlt : i < s.futs.length := by have := (hI.qHead hq').1; omega
    have hget := List.getElem?_eq_getElem hlt
    rcases hfi : s.futs[i] with ⟨y, st⟩
    rw [hfi] at hget
    cases st with
    | done r => exact ⟨r, rest, by simp [headDone, hq', hget]⟩
    | cancelled => exact absurd rfl (hl.2.1 _ _ _ hget)
    | _ => exact nomatch hna _ _ _ hget

/-- with no future pending or running the head of `q` is finished (`head_done`), and `__exit__` has nothing
    to wait for -/
theorem consumer_can_move (hI : Inv w b ek tk f src₀ ending s) (hb : 1 ≤ b) (hna : NoActive s.futs)
    (hnd : isDone s = false) (hny : ∀ x, s.c ≠ .yielded x) (hnye : ∀ e, s.c ≠ .yieldedErr e) :
    ∃ s', step s .consumer = some s' := by
  have hph := hI.phase
  have head := head_done hI (hna := hna)
  rw [step]
  cases hc : s.c with
  | pull => dsimp only; cases s.src <;> cases s.ending <;> exact ⟨_, rfl⟩
  | waitHead x =>
    simp only [PhaseInv, hc] at hph
    obtain ⟨r, rest, hh⟩ := head (hI.liveAt hc) fun hq => by
      rw [hq] at hph; exact absurd (Nat.le_trans hb hph.2.2) (by simp)
    dsimp only; rw [hh]; cases r <;> exact ⟨_, rfl⟩
  | yielded x => exact absurd hc (hny x)
  | submit x => exact ⟨_, rfl⟩
  | drain | drainErr e =>
    dsimp only
    cases hq : s.q with
    | nil => exact ⟨_, rfl⟩
    | cons i rest =>
      obtain ⟨r, rest, hh⟩ := head (hI.liveAt hc) (by simp [hq])
      dsimp only; rw [hh]; cases r <;> exact ⟨_, rfl⟩
  | yieldedErr e => exact absurd hc (hnye e)
  | cancel =>
    dsimp only
    cases s.termKind with
    | cancelQueued =>
      cases s.q with
      | nil => exact ⟨_, rfl⟩
      | cons i rest => dsimp only; split <;> exact ⟨_, rfl⟩
    | _ => exact ⟨_, rfl⟩
  | exitWait r cl =>
    dsimp only
    cases s.exitKind with
    | waitAll =>
      have hall : s.futs.all (fun p => !isActive p.2) = true :=
        List.all_eq_true.mpr fun p hp => by simp [mem_of_forall_idx hna p hp]
      rw [if_pos hall]; exact ⟨_, rfl⟩
    | killOnError => cases r <;> exact ⟨_, rfl⟩
    | _ => exact ⟨_, rfl⟩
  | done r cl => simp [isDone, hc] at hnd

/-- Deadlock freedom: the pool can move while a future is pending or running, the consumer otherwise. -/
theorem Inv.can_move (hI : Inv w b ek tk f src₀ ending s) (hw : 1 ≤ w) (hb : 1 ≤ b)
    (hnd : isDone s = false) (hny : ∀ x, s.c ≠ .yielded x) (hnye : ∀ e, s.c ≠ .yieldedErr e) :
    (∃ s', Lpm.step s .consumer = some s') ∨ (∃ s', Lpm.step s .start = some s') ∨
      (∃ i s', Lpm.step s (.finish i) = some s') := by
  by_cases hex : ∃ (j : Nat) (y : α) (st : FState β ε), s.futs[j]? = some (y, st) ∧ isActive st = true
  · exact .inr (pool_can_move (hI.hw ▸ hw) hex)
  · refine .inl (consumer_can_move hI hb (fun j y st hj => ?_) hnd hny hnye)
    cases ha : isActive st
    · rfl
    · exact absurd ⟨j, y, st, hj, ha⟩ hex

end LazyDs.Lpm
