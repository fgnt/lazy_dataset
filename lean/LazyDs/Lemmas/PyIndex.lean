import LazyDs.Model.Basic
/-
  Python list indexing `l[i]` for an integer `i`.  `Cache.normIdx n i` is the position Python looks
  at (`i`, or `i + n` for a negative `i`), or `none` when the access raises `IndexError`; `pyIndex`
  depends on the list only through that position, so tables of equal length are indexed alike.
  Core Lean only.
-/

namespace LazyDs.Cache
-- In `Cache` because `Cache.step` inlines this computation and C10 names it; the rule is that of any Python list.

def normInt (n : Nat) (i : Int) : Int := if i < 0 then i + (n : Int) else i

/-- Python's index normalisation: `i` for `0 ≤ i < n`, `i + n` for `-n ≤ i < 0`, otherwise the
    access raises `IndexError` (`none`). -/
def normIdx (n : Nat) (i : Int) : Option Nat :=
  if normInt n i < 0 || normInt n i ≥ (n : Int) then none else some (normInt n i).toNat

theorem normInt_cases (n : Nat) (i : Int) :
    (0 ≤ i ∧ normInt n i = i) ∨ (i < 0 ∧ normInt n i = i + n) := by
  unfold normInt; split <;> omega

theorem normIdx_of_nonneg {n : Nat} {i : Int} (h : 0 ≤ i) :
    normIdx n i = if i < n then some i.toNat else none := by
  simp only [normIdx, normInt, if_neg (Int.not_lt.2 h), Bool.or_eq_true, decide_eq_true_eq]
  split <;> split <;> first | rfl | omega

theorem normIdx_of_neg {n : Nat} {i : Int} (h : i < 0) :
    normIdx n i = if -(n : Int) ≤ i then some (i + n).toNat else none := by
  simp only [normIdx, normInt, if_pos h, Bool.or_eq_true, decide_eq_true_eq]
  split <;> split <;> first | rfl | omega

theorem normIdx_some_iff {n : Nat} {i : Int} {j : Nat} :
    normIdx n i = some j ↔ (0 ≤ i ∧ i < n ∧ (j : Int) = i) ∨ (i < 0 ∧ -(n : Int) ≤ i ∧ (j : Int) = i + n) := by
  rcases Int.lt_or_le i 0 with h | h
  · rw [normIdx_of_neg h]
    split
    · rw [Option.some.injEq]; omega
    · exact ⟨nofun, by omega⟩
  · rw [normIdx_of_nonneg h]
    split
    · rw [Option.some.injEq]; omega
    · exact ⟨nofun, by omega⟩

theorem normIdx_none_iff {n : Nat} {i : Int} :
    normIdx n i = none ↔ (i < -(n : Int) ∨ (n : Int) ≤ i) := by
  rcases Int.lt_or_le i 0 with h | h
  · rw [normIdx_of_neg h]
    split
    · exact ⟨nofun, by omega⟩
    · exact ⟨fun _ => by omega, fun _ => rfl⟩
  · rw [normIdx_of_nonneg h]
    split
    · exact ⟨nofun, by omega⟩
    · exact ⟨fun _ => by omega, fun _ => rfl⟩

theorem normIdx_lt {n : Nat} {i : Int} {j : Nat} (h : normIdx n i = some j) : j < n := by
  rcases normIdx_some_iff.1 h with ⟨_, h1, hj⟩ | ⟨h0, _, hj⟩
  · exact Int.ofNat_lt.1 (hj ▸ h1)
  · exact Int.ofNat_lt.1 (hj ▸ (by omega : i + n < n))

/-- with `normIdx_neg`: an in-range `i` and its negative alias `i - n` are one position, which is what
    C10 is about -/
theorem normIdx_nonneg {n : Nat} {i : Int} (h0 : 0 ≤ i) (h1 : i < n) :
    normIdx n i = some i.toNat := by
  rw [normIdx_of_nonneg h0, if_pos h1]

theorem normIdx_neg {n : Nat} {i : Int} (h0 : 0 ≤ i) (h1 : i < n) :
    normIdx n (i - n) = some i.toNat := by
  rw [normIdx_of_neg (by omega), Int.sub_add_cancel, if_pos (by omega)]

theorem normIdx_eq {n : Nat} {i : Int} {j : Nat} (h : normIdx n i = some j) :
    (0 ≤ i ∧ (j : Int) = i) ∨ (i < 0 ∧ (j : Int) = i + n) := by
  rcases normIdx_some_iff.1 h with ⟨h0, _, hj⟩ | ⟨h0, _, hj⟩
  · exact .inl ⟨h0, hj⟩
  · exact .inr ⟨h0, hj⟩
end LazyDs.Cache

namespace LazyDs

open Cache (normInt normIdx normIdx_none_iff normIdx_lt)

section
variable {α β : Type} {l : List α} {n : Nat} {i : Int}

theorem pyIndex_nat (l : List α) (j : Nat) :
    pyIndex l (j : Int) = match l[j]? with | some v => .ok v | none => .error .indexError := by
  have h1 : ¬ ((j : Int) < 0) := by omega
  simp only [pyIndex, h1, if_false, Int.toNat_natCast]
  cases l[j]? <;> rfl

theorem pyIndex_eq_normIdx (l : List α) (i : Int) :
    pyIndex l i = match normIdx l.length i with
      | some j => pyIndex l (j : Int)
      | none => .error .indexError := by
  unfold pyIndex normIdx normInt
  simp only []
  generalize (if i < 0 then i + (l.length : Int) else i) = a
  by_cases h0 : a < 0
  · simp only [h0, if_true, Bool.true_or, decide_true]
  · by_cases h1 : a ≥ (l.length : Int)
    · simp only [h0, h1, if_false, decide_false, decide_true, Bool.or_true, if_true,
        List.getElem?_eq_none (show l.length ≤ a.toNat by omega)]
    · have h2 : ¬ (((a.toNat : Nat) : Int) < 0) := by omega
      simp only [h0, h1, h2, if_false, decide_false, Bool.or_self, Bool.false_eq_true, Int.toNat_natCast]

theorem pyIndex_none (hl : l.length = n) (h : normIdx n i = none) : pyIndex l i = .error .indexError := by
  subst hl; rw [pyIndex_eq_normIdx, h]

theorem pyIndex_some (hl : l.length = n) {j : Nat} (h : normIdx n i = some j) :
    pyIndex l i = pyIndex l (j : Int) := by
  subst hl; rw [pyIndex_eq_normIdx, h]

theorem pyIndex_nat_ok_iff (l : List α) (j : Nat) (v : α) :
    pyIndex l (j : Int) = .ok v ↔ l[j]? = some v := by
  rw [pyIndex_nat]
  cases l[j]? with
  | none => exact ⟨nofun, nofun⟩
  | some w => exact ⟨fun h => by cases h; rfl, fun h => by cases h; rfl⟩

theorem pyIndex_lt (l : List α) (j : Nat) (h : j < l.length) : pyIndex l (j : Int) = .ok l[j] :=
  (pyIndex_nat_ok_iff l j _).2 (List.getElem?_eq_getElem h)

theorem pyIndex_ge (l : List α) (i : Int) (h : (l.length : Int) ≤ i) : pyIndex l i = .error .indexError :=
  pyIndex_none rfl (normIdx_none_iff.2 (.inr h))

theorem pyIndex_lt_neg (l : List α) (i : Int) (h : i < -(l.length : Int)) :
    pyIndex l i = .error .indexError :=
  pyIndex_none rfl (normIdx_none_iff.2 (.inl h))

theorem pyIndex_wrap (l : List α) (i : Int) (h0 : 0 ≤ i) (h1 : i < l.length) :
    pyIndex l (i - l.length) = pyIndex l i := by
  rw [pyIndex_some rfl (Cache.normIdx_neg h0 h1), pyIndex_some rfl (Cache.normIdx_nonneg h0 h1)]

theorem pyIndex_cases (l : List α) (i : Int) :
    (normIdx l.length i = none ∧ pyIndex l i = .error .indexError) ∨
    ∃ j, ∃ hj : j < l.length, normIdx l.length i = some j ∧ pyIndex l i = .ok l[j] := by
  cases h : normIdx l.length i with
  | none => exact .inl ⟨rfl, pyIndex_none rfl h⟩
  | some j =>
    exact .inr ⟨j, normIdx_lt h, rfl, (pyIndex_some rfl h).trans (pyIndex_lt l j (normIdx_lt h))⟩

theorem pyIndex_map (f : α → β) (l : List α) (i : Int) :
    pyIndex (l.map f) i = (pyIndex l i).map f := by
  rcases pyIndex_cases l i with ⟨hn, h⟩ | ⟨j, hj, hn, h⟩
  · rw [h, pyIndex_none (List.length_map f) hn]; rfl
  · rw [h, pyIndex_some (List.length_map f) hn, pyIndex_lt _ j (by rw [List.length_map]; exact hj),
      List.getElem_map]; rfl

theorem pyIndex_error (l : List α) (i : Int) (e : Err) (h : pyIndex l i = .error e) :
    e = .indexError := by
  rcases pyIndex_cases l i with ⟨_, h'⟩ | ⟨j, hj, _, h'⟩
  · rw [h'] at h; cases h; rfl
  · rw [h'] at h; cases h

theorem pyIndex_ok_mem (l : List α) (i : Int) (v : α) (h : pyIndex l i = .ok v) : v ∈ l := by
  rcases pyIndex_cases l i with ⟨_, h'⟩ | ⟨j, hj, _, h'⟩
  · rw [h'] at h; cases h
  · rw [h'] at h; cases h; exact List.getElem_mem hj

end

end LazyDs
