import Batteries.Data.List.Basic
/-
  `List.Forall₂` (componentwise related lists): the type is in `Batteries.Data.List.Basic`, its
  lemmas are not.
-/
namespace List

namespace Forall₂
variable {α β γ : Type} {R : α → β → Prop} {l₁ : List α} {l₂ : List β}

theorem imp {S : α → β → Prop} (h : Forall₂ R l₁ l₂) (hRS : ∀ a b, R a b → S a b) : Forall₂ S l₁ l₂ := by
  induction h with
  | nil => exact .nil
  | cons hab _ ih => exact .cons (hRS _ _ hab) ih

theorem length_eq (h : Forall₂ R l₁ l₂) : l₁.length = l₂.length := by
  induction h with
  | nil => rfl
  | cons _ _ ih => rw [List.length_cons, List.length_cons, ih]

protected theorem getElem? (h : Forall₂ R l₁ l₂) (i : Nat) :
    (l₁[i]? = none ∧ l₂[i]? = none) ∨ ∃ a b, l₁[i]? = some a ∧ l₂[i]? = some b ∧ R a b := by
  induction h generalizing i with
  | nil => exact .inl ⟨rfl, rfl⟩
  | @cons a b _ _ hab _ ih =>
    cases i with
    | zero => exact .inr ⟨a, b, rfl, rfl, hab⟩
    | succ i => simp only [List.getElem?_cons_succ]; exact ih i

theorem of_getElem?_right (h : Forall₂ R l₁ l₂) {i : Nat} {b : β} (hb : l₂[i]? = some b) :
    ∃ a, l₁[i]? = some a ∧ R a b := by
  rcases h.getElem? i with ⟨_, h2⟩ | ⟨a, b', h1, h2, hab⟩
  · rw [hb] at h2; cases h2
  · rw [hb] at h2; cases h2; exact ⟨a, h1, hab⟩

theorem of_mem_right (h : Forall₂ R l₁ l₂) {b : β} (hb : b ∈ l₂) : ∃ a ∈ l₁, R a b := by
  obtain ⟨i, hi⟩ := List.getElem?_of_mem hb
  obtain ⟨a, ha, hab⟩ := h.of_getElem?_right hi
  exact ⟨a, List.mem_of_getElem? ha, hab⟩

theorem and_mem_right (h : Forall₂ R l₁ l₂) : Forall₂ (fun a b => R a b ∧ b ∈ l₂) l₁ l₂ := by
  induction h with
  | nil => exact .nil
  | cons hab _ ih =>
    exact .cons ⟨hab, by simp⟩ (ih.imp fun _ _ h => ⟨h.1, by simp [h.2]⟩)

theorem map_eq {f : α → γ} {g : β → γ} (hfg : ∀ a b, R a b → f a = g b)
    (h : Forall₂ R l₁ l₂) : l₁.map f = l₂.map g := by
  induction h with
  | nil => rfl
  | cons hab _ ih => rw [List.map_cons, List.map_cons, hfg _ _ hab, ih]

theorem all_eq {p : α → Bool} {q : β → Bool} (hpq : ∀ a b, R a b → p a = q b)
    (h : Forall₂ R l₁ l₂) : l₁.all p = l₂.all q := by
  induction h with
  | nil => rfl
  | cons hab _ ih => rw [List.all_cons, List.all_cons, hpq _ _ hab, ih]

theorem foldr_eq {f : α → γ → γ} {g : β → γ → γ} (hfg : ∀ a b, R a b → f a = g b) (init : γ)
    (h : Forall₂ R l₁ l₂) : l₁.foldr f init = l₂.foldr g init := by
  induction h with
  | nil => rfl
  | cons hab _ ih => rw [List.foldr_cons, List.foldr_cons, hfg _ _ hab, ih]

theorem mapM_eq {m : Type → Type} [Monad m] [LawfulMonad m] {f : α → m γ} {g : β → m γ}
    (hfg : ∀ a b, R a b → f a = g b) (h : Forall₂ R l₁ l₂) : l₁.mapM f = l₂.mapM g := by
  induction h with
  | nil => rfl
  | cons hab _ ih => rw [List.mapM_cons, List.mapM_cons, hfg _ _ hab, ih]

protected theorem replicate {a : α} {b : β} (h : R a b) (n : Nat) :
    Forall₂ R (List.replicate n a) (List.replicate n b) := by
  induction n with
  | zero => exact .nil
  | succ n ih => exact .cons h ih

end Forall₂

end List
