import LazyDs.Model.Basic
/-
  `Res = Except Err`: the equations of `>>=` that let a proof step through a `do` block of the model
  without unfolding `bind`.
-/
namespace LazyDs

theorem ok_bind {α β} (a : α) (f : α → Res β) : ((Except.ok a : Res α) >>= f) = f a := rfl

theorem error_bind {α β} (e : Err) (f : α → Res β) : ((Except.error e : Res α) >>= f) = .error e := rfl

theorem bind_eq_ok {α β} {x : Res α} {f : α → Res β} {b : β} :
    (x >>= f) = .ok b ↔ ∃ a, x = .ok a ∧ f a = .ok b := by
  cases x with
  | error e => exact ⟨fun h => (nomatch h), fun ⟨_, h, _⟩ => (nomatch h)⟩
  | ok a => exact ⟨fun h => ⟨a, rfl, h⟩, fun ⟨_, h1, h⟩ => by cases h1; exact h⟩

theorem ite_error_eq_ok {α} {c : Prop} [Decidable c] {e : Err} {x : Res α} {a : α} :
    (if c then .error e else x) = .ok a ↔ ¬ c ∧ x = .ok a := by
  by_cases h : c
  · rw [if_pos h]; exact ⟨nofun, fun h' => absurd h h'.1⟩
  · rw [if_neg h]; exact ⟨fun h' => ⟨h, h'⟩, fun h' => h'.2⟩

theorem map_bind_bind {α β γ} (f : α → Res β) (g : β → Res γ) (l : List (Res α)) :
    (l.map (· >>= f)).map (· >>= g) = l.map (· >>= fun a => f a >>= g) := by
  rw [List.map_map]
  exact List.map_congr_left fun o _ => bind_assoc o f g

theorem bind_congr_map {α β γ} {x : Res α} {k : α → Res γ} {k' : α → Res β} {m : β → γ}
    (h : ∀ a, k a = (k' a).map m) : (x >>= k) = (x >>= k').map m := by
  cases x with
  | error e => rfl
  | ok a => exact h a

end LazyDs
