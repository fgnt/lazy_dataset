import LazyDs.Lemmas.RelIntersperse
import LazyDs.Lemmas.PySliceLemmas
import LazyDs.Lemmas.WfUnary
import LazyDs.Lemmas.WfNary
import LazyDs.Lemmas.ResRel
/-
  The central refinement theorems, by structural induction on the pipeline with one stage lemma per
  constructor.  For every admissible pipeline (`Adm`):
  * `build_sim`: what `build` (the model of the lazy code) returns agrees with what `ref` (the eager list
    semantics) returns: a dataset that refines the reference's (`build_ref`), or the same refusal
    (`Lemmas/SoundErr.lean` reads off the error direction);
  * `ref_wf`: every reference dataset is well-formed (C02/C03 on eager data).
  `build_whenOk_inv`: every built dataset satisfies `BInv`, two facts that `Rel` does not track and that
  the stage lemmas of `build_sim` use.

  The lemmas for the constructors that can refuse (`mkSlice`, `mkSort`, `mkZip`, …) are stated on results
  (`Sim`, `WhenOk` of `Lemmas/ResRel.lean`), so that each case of an induction is the induction
  hypothesis, `bind`, and the stage lemma.
-/
namespace LazyDs
open List (Forall₂)

/-! ### admissible pipelines

The side conditions under which the refinement is proved.  Each is forced by the code (the
places where the full statement is false are exhibited as counterexample theorems):
* user functions never raise `IndexError` (`EnvOK`): `BatchDataset.__getitem__` would swallow it.
  Predicates (`ρ.pred`) may: a lazy filter is not indexable, so no index walk runs through its
  predicate, and an eager filter evaluates it at build time, by the same program on both sides;
* dict sources have distinct keys (Python dicts do);
* `batch` has `batch_size ≥ 1`, and with `drop_last` the dropped tail evaluates without error
  (`rel_batch_counterexample`);
* `items()` of an indexable dataset needs its key table (`items_getInt_without_keys_counterexample`, finding F18);
* `catch`, multi-worker `prefetch` and `key_zip` parts need positional access to an indexable input;
* `cycle` is outside (infinite).

Several clauses of `Adm` speak of the reference dataset (`∀ r, ref ρ p = .ok r → …`) and not of the
syntax of `p`: whether a stage is indexable, has a key table, or has a failing example in a dropped
tail depends on the user functions and on the data.  The reference is computable, so for a concrete
pipeline such a clause is discharged by evaluating `ref ρ p` (`c14Pipe_adm`). -/

def EnvOK (ρ : Env) : Prop := ∀ f v, ρ.fn f v ≠ .error .indexError

mutual
def Adm (ρ : Env) : Pipeline → Prop
  | .listSrc _ => True
  | .dictSrc kvs => (kvs.map (·.1)).Nodup
  | .map _ p => Adm ρ p
  | .parMap _ _ _ p => Adm ρ p
  | .filterLazy _ p => Adm ρ p
  | .filterEager _ p => Adm ρ p
  | .slice _ p => Adm ρ p
  | .concat ps => AdmAll ρ ps
  | .intersperse ps => AdmAll ρ ps
  | .zip ps => AdmAll ρ ps
  | .keyZip ps => AdmAll ρ ps ∧ ∀ rs, refAll ρ ps = .ok rs → ∀ r ∈ rs, r.indexable = true
  | .batch n dl p => Adm ρ p ∧ 1 ≤ n ∧
      ∀ r, ref ρ p = .ok r → r.indexable = true → dl = true → TailOk n r.outs
  | .unbatch p => Adm ρ p
  | .items p => Adm ρ p ∧ ∀ r, ref ρ p = .ok r → r.indexable = true → ∃ ks, r.keys = .ok ks
  | .tile _ p => Adm ρ p
  | .shuffleOnce _ p => Adm ρ p
  | .sort _ _ p => Adm ρ p
  | .shard _ _ p => Adm ρ p
  | .cache p => Adm ρ p
  | .cacheEager p => Adm ρ p
  | .catch _ p => Adm ρ p ∧ ∀ r, ref ρ p = .ok r → r.indexable = true
  | .copy _ p => Adm ρ p
  | .prefetch w _ t ce p => Adm ρ p ∧
      ∀ r, ref ρ p = .ok r → (ce.isSome = true ∨ ¬(w = 1 ∧ t = true)) → r.indexable = true
  | .cycle _ => False
def AdmAll (ρ : Env) : Pipelines → Prop
  | .nil => True
  | .cons p ps => Adm ρ p ∧ AdmAll ρ ps
end

/-! ### what `build` guarantees besides `Rel`

Two facts about built datasets that `Rel` does not track are an invariant of `build` (`build_whenOk_inv`):
* `ordered = true` (the model never builds an unordered dataset; `mkCacheEager` asks for it), and
* `sliceGuard` is `.ok ()` unless the dataset is literally a `filterDS` (the only stage whose
  `__getitem__` asserts before `SliceDataset.__init__` runs).
They are needed when the build succeeds as well as when it refuses: the eager filter, `shuffle` and
`split` go through `mkSlice` and have to pass its guard (`sim_mkFilterEager`, `sim_mkShuffleOnce`,
`sim_mkSplit`), and `sim_mkCacheEager` uses `ordered`. -/

structure BInv (d : DS) : Prop where
  ordered : d.ordered = true
  guard : d.sliceGuard = .ok () ∨ ∃ f d0, d = filterDS f d0

/-! ### the pipelines on which the error classes agree

`AdmErr` excludes the one corner where they do not: a `[...]` selection or a `sort(key_fn)` applied
directly to a dataset whose `__getitem__` asserts before `SliceDataset.__init__` runs (in the model:
`sliceGuard ≠ .ok ()`; by `build_whenOk_inv` that is exactly a lazy `filter`, possibly seen through the
transparent stages `copy`, `tile 1`, and one-part `concatenate` / `intersperse`).  For `sort` the condition is
sufficient, not necessary (a failing key function is reported identically on both sides);
`build_err_ref_gen` is the exact statement. -/

mutual
def AdmErr (ρ : Env) : Pipeline → Prop
  | .listSrc _ => True
  | .dictSrc _ => True
  | .map _ p => AdmErr ρ p
  | .parMap _ _ _ p => AdmErr ρ p
  | .filterLazy _ p => AdmErr ρ p
  | .filterEager _ p => AdmErr ρ p
  | .slice _ p => AdmErr ρ p ∧ ∀ d, build ρ p = .ok d → d.sliceGuard = .ok ()
  | .concat ps => AdmErrAll ρ ps
  | .intersperse ps => AdmErrAll ρ ps
  | .zip ps => AdmErrAll ρ ps
  | .keyZip ps => AdmErrAll ρ ps
  | .batch _ _ p => AdmErr ρ p
  | .unbatch p => AdmErr ρ p
  | .items p => AdmErr ρ p
  | .tile _ p => AdmErr ρ p
  | .shuffleOnce _ p => AdmErr ρ p
  | .sort key _ p => AdmErr ρ p ∧ (key.isSome = true → ∀ d, build ρ p = .ok d → d.sliceGuard = .ok ())
  | .shard _ _ p => AdmErr ρ p
  | .cache p => AdmErr ρ p
  | .cacheEager p => AdmErr ρ p
  | .catch _ p => AdmErr ρ p
  | .copy _ p => AdmErr ρ p
  | .prefetch _ _ _ _ p => AdmErr ρ p
  | .cycle p => AdmErr ρ p
def AdmErrAll (ρ : Env) : Pipelines → Prop
  | .nil => True
  | .cons p ps => AdmErr ρ p ∧ AdmErrAll ρ ps
end

theorem BInv.guard_of_indexable {d : DS} (h : BInv d) (hi : d.indexable = true) : d.sliceGuard = .ok () := by
  rcases h.guard with hg | ⟨f, d0, rfl⟩
  · exact hg
  · cases hi

theorem BInv.guard_of_len {d : DS} {n : Nat} (h : BInv d) (hl : d.len = .ok n) : d.sliceGuard = .ok () := by
  rcases h.guard with hg | ⟨f, d0, rfl⟩
  · exact hg
  · cases hl

theorem BInv.guard_of_keys {d : DS} {ks : List String} (h : BInv d) (hk : d.keys = .ok ks) :
    d.sliceGuard = .ok () := by
  rcases h.guard with hg | ⟨f, d0, rfl⟩
  · exact hg
  · cases hk

theorem all_ordered {ds : List DS} (h : ∀ d ∈ ds, BInv d) : ds.all (·.ordered) = true := by
  simp only [List.all_eq_true]
  intro d hd
  exact (h d hd).ordered

/-- a dataset built by a stage other than the lazy filter (`sliceGuard` is its default) -/
theorem BInv.of_ordered {d : DS} (ho : d.ordered = true) (hg : d.sliceGuard = .ok () := by rfl) : BInv d :=
  ⟨ho, .inl hg⟩

theorem sel_lt {r : RefDS} (hlo : r.len = .ok r.outs.length)
    (hkl : ∀ ks, r.keys = .ok ks → ks.length = r.outs.length) {n : Nat} {spec : SliceSpec} {sel : List Nat}
    (hn : r.len = .ok n) (hs : resolveSlice n r.keys spec = .ok sel) : ∀ j ∈ sel, j < r.outs.length := by
  rw [hlo] at hn
  cases hn
  exact resolveSlice_lt hkl hs

theorem Ref.mkSlice_idx_ok {r : RefDS} {n : Nat} (hi : r.indexable = true) (hl : r.len = .ok n)
    {l : List Nat} (h : ∀ x ∈ l, x < n) :
    Ref.mkSlice (.idx (l.map Int.ofNat)) r = .ok (Ref.slice l r) := by
  simp only [Ref.mkSlice, hi, hl, ok_bind, resolveSlice, resolveIdx_ofNat h]
  rfl

theorem sim_mkSlice_of_guard {A : Prop} {d : DS} {r : RefDS} (spec : SliceSpec) (h : Rel d r)
    (hg : d.sliceGuard = .ok ()) : Sim Rel A (mkSlice spec d) (Ref.mkSlice spec r) := by
  unfold mkSlice Ref.mkSlice
  rw [hg, h.indexable, h.len, h.keys, ok_bind]
  cases hi : r.indexable with
  | false => exact .error _
  | true =>
    exact .bind_same _ fun n hn => .bind_same _ fun sel hs =>
      .ok (rel_slice h hi sel (sel_lt (h.idx hi).1 (h.keysLen hi) hn hs))

/-- `ds[spec]`: the one place where the classes can differ is the assertion of `FilterDataset.__getitem__` -/
theorem sim_mkSlice {d : DS} {r : RefDS} (spec : SliceSpec) (h : Rel d r) (hinv : BInv d) :
    Sim Rel (d.sliceGuard = .ok ()) (mkSlice spec d) (Ref.mkSlice spec r) := by
  rcases hinv.guard with hg | ⟨f, d0, rfl⟩
  · exact sim_mkSlice_of_guard spec h hg
  · have hi : r.indexable = false := h.indexable.symm
    unfold Ref.mkSlice
    rw [hi]
    exact .corner (fun hc => by cases hc)

theorem wf_mkSlice (spec : SliceSpec) (r : RefDS) : WhenOk RefWF2 (Ref.mkSlice spec r) := by
  unfold Ref.mkSlice
  exact .guard fun _ => .bind_eq fun _ _ => .bind_eq fun sel _ => .ok (wf2_slice sel r)

theorem inv_mkSlice {d : DS} (spec : SliceSpec) (h : BInv d) : WhenOk BInv (mkSlice spec d) := by
  exact .bind_eq fun _ _ => .guard fun _ => .bind_eq fun _ _ => .bind_eq fun sel _ =>
    .ok (.of_ordered h.ordered)

/-! ### the eager operations built on `mkSlice`: the same program on both sides, then a slice -/

theorem sim_mkFilterEager {A : Prop} {d : DS} {r : RefDS} (f : Val → Res Bool) (h : Rel d r) (hinv : BInv d) :
    Sim Rel A (mkFilterEager f d) (Ref.mkFilterEager f r) := by
  unfold mkFilterEager Ref.mkFilterEager
  rw [h.iter, h.len]
  cases hi : d.indexable with
  | false => rw [← h.indexable, hi]; exact .error _
  | true =>
    rw [← h.indexable, hi]
    exact .bind_same _ fun _ _ => .bind_same _ fun _ _ => .bind_same _ fun _ _ =>
      sim_mkSlice_of_guard _ h (hinv.guard_of_indexable hi)

theorem wf_mkFilterEager (f : Val → Res Bool) (r : RefDS) : WhenOk RefWF2 (Ref.mkFilterEager f r) := by
  unfold Ref.mkFilterEager
  exact .guard fun _ => .bind_eq fun _ _ => .bind_eq fun _ _ => .bind_eq fun _ _ => wf_mkSlice _ r

theorem inv_mkFilterEager {d : DS} (f : Val → Res Bool) (h : BInv d) : WhenOk BInv (mkFilterEager f d) := by
  unfold mkFilterEager
  exact .guard fun _ => .bind_eq fun _ _ => .bind_eq fun _ _ => .bind_eq fun _ _ => inv_mkSlice _ h

theorem sim_mkShuffleOnce {A : Prop} {d : DS} {r : RefDS} (perm : List Nat) (h : Rel d r) (hinv : BInv d) :
    Sim Rel A (mkShuffleOnce perm d) (Ref.mkShuffleOnce perm r) := by
  unfold mkShuffleOnce Ref.mkShuffleOnce
  rw [← h.len]
  exact .bind_same _ fun _ hl => sim_mkSlice_of_guard _ h (hinv.guard_of_len hl)

theorem wf_mkShuffleOnce (perm : List Nat) (r : RefDS) : WhenOk RefWF2 (Ref.mkShuffleOnce perm r) :=
  .bind_eq fun _ _ => wf_mkSlice _ r

theorem inv_mkShuffleOnce {d : DS} (perm : List Nat) (h : BInv d) : WhenOk BInv (mkShuffleOnce perm d) :=
  .bind_eq fun _ _ => inv_mkSlice _ h

/-- `sort`: without a key function the key table is asked first (a lazy filter has none: same
    `RuntimeError` on both sides); with a key function the examples are evaluated first and then
    `self[order]` can hit the guard corner of `mkSlice` -/
theorem sim_mkSort {d : DS} {r : RefDS} (keyFn : Option (Val → Res Val)) (rev : Bool) (h : Rel d r)
    (hinv : BInv d) :
    Sim Rel (keyFn.isSome = true → d.sliceGuard = .ok ()) (mkSort keyFn rev d) (Ref.mkSort keyFn rev r) := by
  unfold mkSort Ref.mkSort
  rw [← h.keys, ← h.iter]
  cases keyFn with
  | none =>
    cases hk : d.keys with
    | error e => exact .ite_same _ (fun _ => .error _) fun _ => .error _
    | ok ks => exact sim_mkSlice_of_guard _ h (hinv.guard_of_keys hk)
  | some f =>
    have key := fun spec => (sim_mkSlice spec h hinv).mono (A := (some f).isSome = true → _) fun hA => hA rfl
    refine .bind_same _ fun kv _ => .bind_same _ fun _ _ => ?_
    cases asInts kv with
    | some is => exact key _
    | none =>
      cases asStrs kv with
      | some ss => exact key _
      | none => exact .ite_same _ (fun _ => key _) fun _ => .error _

theorem wf_mkSort (keyFn : Option (Val → Res Val)) (rev : Bool) (r : RefDS) :
    WhenOk RefWF2 (Ref.mkSort keyFn rev r) := by
  unfold Ref.mkSort
  cases keyFn with
  | none =>
    cases r.keys with
    | error e => exact .ite _ (fun _ => .error _) fun _ => .error _
    | ok ks => exact wf_mkSlice _ r
  | some f =>
    refine .bind_eq fun kv _ => .bind_eq fun _ _ => ?_
    cases asInts kv with
    | some is => exact wf_mkSlice _ r
    | none =>
      cases asStrs kv with
      | some ss => exact wf_mkSlice _ r
      | none => exact .ite _ (fun _ => wf_mkSlice _ r) fun _ => .error _

theorem inv_mkSort {d : DS} (keyFn : Option (Val → Res Val)) (rev : Bool) (h : BInv d) :
    WhenOk BInv (mkSort keyFn rev d) := by
  unfold mkSort
  cases keyFn with
  | none =>
    cases d.keys with
    | error e => exact .ite _ (fun _ => .error _) fun _ => .error _
    | ok ks => exact inv_mkSlice _ h
  | some f =>
    refine .bind_eq fun kv _ => .bind_eq fun _ _ => ?_
    cases asInts kv with
    | some is => exact inv_mkSlice _ h
    | none =>
      cases asStrs kv with
      | some ss => exact inv_mkSlice _ h
      | none => exact .ite _ (fun _ => inv_mkSlice _ h) fun _ => .error _

theorem sim_pyIndex {α β} {R : α → β → Prop} {A : Prop} {l : List α} {l' : List β} (h : Forall₂ R l l')
    (i : Int) : Sim R A (pyIndex l i) (pyIndex l' i) := by
  rcases h.pyIndex i with ⟨h1, h2⟩ | ⟨a, b, h1, h2, hab⟩
  · rw [h1, h2]; exact .error _
  · rw [h1, h2]; exact .ok hab

theorem sim_mkSplit {A : Prop} {d : DS} {r : RefDS} (k : Int) (h : Rel d r) (hinv : BInv d) :
    Sim (Forall₂ Rel) A (mkSplit k d) (Ref.mkSplit k r) := by
  unfold mkSplit Ref.mkSplit
  rw [← h.len]
  exact .guard fun _ => .bind_same _ fun n hn => .guard fun _ =>
    sim_mapM _ _ (fun _ => sim_mkSlice_of_guard _ h (hinv.guard_of_len hn)) _

theorem sim_mkShard {A : Prop} {d : DS} {r : RefDS} (k i : Int) (h : Rel d r) (hinv : BInv d) :
    Sim Rel A (mkShard k i d) (Ref.mkShard k i r) :=
  (sim_mkSplit k h hinv).bind fun _ _ _ _ hall => sim_pyIndex hall i

theorem whenOk_pyIndex {α} {P : α → Prop} {l : List α} (h : ∀ a ∈ l, P a) (i : Int) : WhenOk P (pyIndex l i) :=
  .intro fun a ha => h a (pyIndex_ok_mem l i a ha)

theorem wf_mkShard (k i : Int) (r : RefDS) : WhenOk RefWF2 (Ref.mkShard k i r) := by
  unfold Ref.mkShard Ref.mkSplit
  refine .bind (Q := fun rs => ∀ r' ∈ rs, RefWF2 r') ?_ fun rs hrs => whenOk_pyIndex hrs i
  exact .guard fun _ => .bind_eq fun _ _ => .guard fun _ => whenOk_mapM _ (fun _ => wf_mkSlice _ r) _

theorem inv_mkShard {d : DS} (k i : Int) (h : BInv d) : WhenOk BInv (mkShard k i d) := by
  unfold mkShard mkSplit
  refine .bind (Q := fun ds => ∀ d' ∈ ds, BInv d') ?_ fun ds hds => whenOk_pyIndex hds i
  exact .guard fun _ => .bind_eq fun _ _ => .guard fun _ => whenOk_mapM _ (fun _ => inv_mkSlice _ h) _

/-! ### unary stages with their own argument checks -/

theorem sim_mkTile {A : Prop} {d : DS} {r : RefDS} (n : Nat) (h : Rel d r) : Sim Rel A (mkTile n d) (Ref.mkTile n r) :=
  match n with
  | 0 => .error _
  | 1 => .ok h
  | n + 2 => .ok (rel_concat (.replicate h (n + 2)))

theorem wf_mkTile {r : RefDS} (n : Nat) (h : RefWF2 r) : WhenOk RefWF2 (Ref.mkTile n r) :=
  match n with
  | 0 => .error _
  | 1 => .ok h
  | n + 2 => .ok (wf2_concat fun r0 hr0 => by rw [List.eq_of_mem_replicate hr0]; exact h)

theorem inv_mkTile {d : DS} (n : Nat) (h : BInv d) : WhenOk BInv (mkTile n d) :=
  match n with
  | 0 => .error _
  | 1 => .ok h
  | n + 2 => .ok (.of_ordered (all_ordered fun d0 hd0 => by rw [List.eq_of_mem_replicate hd0]; exact h))

theorem sim_mkCache {A : Prop} {d : DS} {r : RefDS} (h : Rel d r) : Sim Rel A (mkCache d) (Ref.mkCache r) := by
  unfold mkCache Ref.mkCache
  rw [h.indexable]
  exact .ite_same _ (fun hi => .ok (rel_cache h hi)) fun _ => .error _

theorem wf_mkCache {r : RefDS} (h : RefWF2 r) : WhenOk RefWF2 (Ref.mkCache r) :=
  .ite _ (fun hi => .ok (wf2_cache h.sized hi)) fun _ => .error _

theorem inv_mkCache {d : DS} (h : BInv d) : WhenOk BInv (mkCache d) :=
  .ite _ (fun _ => .ok (.of_ordered h.ordered)) fun _ => .error _

/-- eager cache: the reference is told `ordered = true`, which is what every built dataset has -/
theorem sim_mkCacheEager {A : Prop} {d : DS} {r : RefDS} (h : Rel d r) (hinv : BInv d) :
    Sim Rel A (mkCacheEager d) (Ref.mkCacheEager r true) := by
  unfold mkCacheEager Ref.mkCacheEager
  rw [hinv.ordered, h.indexable, h.iterK, h.iter]
  refine .guard fun _ => ?_
  -- `let s := r.kstream` hides `r.kstream.err` from `cases`
  dsimp only
  cases r.kstream.err with
  | some e => exact .ite_same _ (fun _ => .bind_same _ fun vs _ => .ok (rel_listSrc vs)) fun _ => .error _
  | none =>
    exact .ite_same _ (fun _ => .ok (rel_listSrc _)) fun hdup =>
      .ok <| rel_dictSrc _ ((hasDup_eq_false_iff _).mp (Bool.eq_false_iff.mpr hdup))

theorem wf_mkCacheEager {r : RefDS} {o : Bool} : WhenOk RefWF2 (Ref.mkCacheEager r o) := by
  unfold Ref.mkCacheEager
  refine .guard fun _ => ?_
  dsimp only
  cases r.kstream.err with
  | some e => exact .ite _ (fun _ => .bind_eq fun vs _ => .ok (wf2_listSrc vs)) fun _ => .error _
  | none => exact .ite _ (fun _ => .ok (wf2_listSrc _)) fun _ => .ok (wf2_dictSrc _)

theorem inv_mkCacheEager {d : DS} : WhenOk BInv (mkCacheEager d) := by
  unfold mkCacheEager
  refine .guard fun _ => ?_
  dsimp only
  cases d.iterK.err with
  | some e => exact .ite _ (fun _ => .bind_eq fun vs _ => .ok (.of_ordered rfl)) fun _ => .error _
  | none => exact .ite _ (fun _ => .ok (.of_ordered rfl)) fun _ => .ok (.of_ordered rfl)

theorem sim_mkPrefetch {A : Prop} (w b : Nat) (t : Bool) (ce : Option (List Err)) {d : DS} {r : RefDS}
    (h : Rel d r) (hi : (ce.isSome ∨ ¬(w = 1 ∧ t = true)) → r.indexable = true) :
    Sim Rel A (mkPrefetch w b t ce d) (Ref.mkPrefetch w b t ce r) := by
  unfold mkPrefetch Ref.mkPrefetch
  rw [h.len]
  refine .ite_same _ (fun _ => ?_) fun _ => ?_
  · cases r.len with
    | error e => exact .error _
    | ok n => exact .guard fun _ => .guard fun _ => .ok (rel_prefetch w t ce h hi)
  · exact .guard fun _ => .guard fun _ => .ok (rel_prefetch w t ce h hi)

theorem whenOk_mkPrefetch {P : DS → Prop} (w b : Nat) (t : Bool) (ce : Option (List Err)) {d : DS}
    (h : 1 ≤ w → w ≤ b → P (prefetchDS w t ce d)) : WhenOk P (mkPrefetch w b t ce d) := by
  unfold mkPrefetch
  refine .ite _ (fun _ => ?_) fun _ => ?_
  · cases d.len with
    | error e => exact .error _
    | ok n => exact .guard fun hw => .guard fun hb => .ok (h (Nat.le_of_not_lt hw) (Nat.le_of_not_lt hb))
  · exact .guard fun hw => .guard fun hb => .ok (h (Nat.le_of_not_lt hw) (Nat.le_of_not_lt hb))

theorem wf_mkPrefetch (w b : Nat) (t : Bool) (ce : Option (List Err)) {r : RefDS}
    (h : RefWF2 (Ref.prefetch w t ce r)) : WhenOk RefWF2 (Ref.mkPrefetch w b t ce r) := by
  unfold Ref.mkPrefetch
  refine .ite _ (fun _ => ?_) fun _ => ?_
  · cases r.len with
    | error e => exact .error _
    | ok n => exact .guard fun _ => .guard fun _ => .ok h
  · exact .guard fun _ => .guard fun _ => .ok h

theorem sim_mkConcat {A : Prop} {ds : List DS} {rs : List RefDS} (h : Forall₂ Rel ds rs) :
    Sim Rel A (mkConcat ds) (Ref.mkConcat rs) := by
  cases h with
  | nil => exact .error _
  | cons hr ht =>
    cases ht with
    | nil => exact .ok hr
    | cons hr1 ht => exact .ok (rel_concat (.cons hr (.cons hr1 ht)))

theorem inv_mkConcat {ds : List DS} (h : ∀ d ∈ ds, BInv d) : WhenOk BInv (mkConcat ds) :=
  match ds, h with
  | [], _ => .error _
  | [_], h => .ok (h _ (List.mem_singleton.mpr rfl))
  | _ :: _ :: _, h => .ok (.of_ordered (all_ordered h))

theorem wf_mkConcat {rs : List RefDS} (h : ∀ r ∈ rs, RefWF2 r) : WhenOk RefWF2 (Ref.mkConcat rs) :=
  match rs, h with
  | [], _ => .error _
  | [_], h => .ok (h _ (List.mem_singleton.mpr rfl))
  | _ :: _ :: _, h => .ok (wf2_concat h)

theorem sim_mkZip {A : Prop} {ds : List DS} {rs : List RefDS} (h : Forall₂ Rel ds rs) :
    Sim Rel A (mkZip ds) (Ref.mkZip rs) := by
  unfold mkZip Ref.mkZip
  have hal := allLens_eq h
  cases h with
  | nil => exact .error _
  | cons hr ht =>
    rw [hal]
    exact .guard fun _ => .bind_same _ fun lens hl => .guard fun he =>
      .ok (rel_zip (.cons hr ht) (List.cons_ne_nil _ _) (allLens_same hl (by simpa using he)))

theorem wf_mkZip {rs : List RefDS} (h : ∀ r ∈ rs, RefWF2 r) : WhenOk RefWF2 (Ref.mkZip rs) := by
  unfold Ref.mkZip
  cases rs with
  | nil => exact .error _
  | cons r0 rs' =>
    exact .guard fun _ => .bind_eq fun lens hl => .guard fun he =>
      .ok (wf2_zip h (List.cons_ne_nil _ _) (allLens_same hl (by simpa using he)))

theorem inv_mkZip {ds : List DS} (h : ∀ d ∈ ds, BInv d) : WhenOk BInv (mkZip ds) := by
  unfold mkZip
  exact .guard fun _ => .bind_eq fun _ _ => .guard fun _ => .ok (.of_ordered (all_ordered h))

theorem sim_mkIntersperse {A : Prop} {ds : List DS} {rs : List RefDS} (h : Forall₂ Rel ds rs) :
    Sim Rel A (mkIntersperse ds) (Ref.mkIntersperse rs) := by
  unfold mkIntersperse Ref.mkIntersperse
  have hal := allLens_eq h
  cases h with
  | nil => exact .error _
  | cons hr ht =>
    rw [hal]
    exact .guard fun _ => .bind_same _ fun lens hl => .guard fun _ =>
      .ok (rel_intersperse_order (.cons hr ht) hl)

theorem wf_mkIntersperse {rs : List RefDS} (h : ∀ r ∈ rs, RefWF2 r) : WhenOk RefWF2 (Ref.mkIntersperse rs) := by
  unfold Ref.mkIntersperse
  exact .guard fun _ => .bind_eq fun lens _ => .guard fun _ => .ok (wf2_intersperse h lens)

theorem inv_mkIntersperse {ds : List DS} (h : ∀ d ∈ ds, BInv d) : WhenOk BInv (mkIntersperse ds) := by
  unfold mkIntersperse
  exact .guard fun _ => .bind_eq fun _ _ => .guard fun _ => .ok (.of_ordered (all_ordered h))

theorem sim_mkKeyZip {A : Prop} {ds : List DS} {rs : List RefDS} (h : Forall₂ Rel ds rs)
    (hi : ∀ r ∈ rs, r.indexable = true) : Sim Rel A (mkKeyZip ds) (Ref.mkKeyZip rs) := by
  unfold mkKeyZip Ref.mkKeyZip
  rw [h.mapM_eq fun _ _ hr => hr.keys, ← h.length_eq]
  exact .guard fun hlt => .bind_same _ fun kss hkss => .guard fun hs =>
    .ok (rel_keyZip h (Nat.le_of_not_lt hlt) hi ⟨kss, hkss, by simpa using hs⟩)

theorem wf_mkKeyZip {rs : List RefDS} (h : ∀ r ∈ rs, RefWF2 r) (hi : ∀ r ∈ rs, r.indexable = true) :
    WhenOk RefWF2 (Ref.mkKeyZip rs) := by
  unfold Ref.mkKeyZip
  exact .guard fun hlt => .bind_eq fun kss hkss => .guard fun _ =>
    .ok (wf2_keyZip h (fun hn => hlt (by rw [hn]; decide)) hi ⟨kss, hkss⟩)

theorem inv_mkKeyZip {ds : List DS} : WhenOk BInv (mkKeyZip ds) := by
  unfold mkKeyZip
  exact .guard fun _ => .bind_eq fun _ _ => .guard fun _ => .ok (.of_ordered rfl)

/-! ### `copy` is transparent

Trap: the two are proved by rewriting, not by `rfl`, on purpose.  The rewrite makes Lean derive the
equation lemmas of `build` and `ref` in this module, so that they exist for the modules that import it
and unfold the two with `simp only [build]` / `simp only [ref]`. -/

theorem build_copy (ρ : Env) (freeze : Bool) (p : Pipeline) : build ρ (.copy freeze p) = build ρ p := by
  rw [build]

theorem ref_copy (ρ : Env) (freeze : Bool) (p : Pipeline) : ref ρ (.copy freeze p) = ref ρ p := by
  rw [ref]

/-! ### `BInv` is an invariant of `build`

In the three inductions below every case is a term whose expected type mentions `build ρ (.map f p)`
etc.; it is accepted because `build` unfolds by definitional reduction, so that no case rewrites with an
equation lemma of the mutual recursion.  Trap: in `build_sim` the case analysis on a `Forall₂` is a
`cases` in tactic mode; written as a term-mode `match` inside the mutual block it runs into a timeout. -/

mutual
theorem build_whenOk_inv (ρ : Env) : (p : Pipeline) → WhenOk BInv (build ρ p)
  | .listSrc _ => .ok (.of_ordered rfl)
  | .dictSrc _ => .ok (.of_ordered rfl)
  | .map _ p => (build_whenOk_inv ρ p).bind fun _ h => .ok (.of_ordered h.ordered)
  | .parMap _ _ _ p => (build_whenOk_inv ρ p).bind fun _ h =>
      .ite _ (fun _ => .ok (.of_ordered h.ordered)) fun _ => .ok (.of_ordered h.ordered)
  | .filterLazy _ p => (build_whenOk_inv ρ p).bind fun _ h => .ok ⟨h.ordered, .inr ⟨_, _, rfl⟩⟩
  | .filterEager _ p => (build_whenOk_inv ρ p).bind fun _ h => inv_mkFilterEager _ h
  | .slice s p => (build_whenOk_inv ρ p).bind fun _ h => inv_mkSlice s h
  | .concat ps => (buildAll_whenOk_inv ρ ps).bind fun _ h => inv_mkConcat h
  | .intersperse ps => (buildAll_whenOk_inv ρ ps).bind fun ds h =>
      match ds, h with
      | [], _ => .error _
      | [_], h => .ok (h _ (List.mem_singleton.mpr rfl))
      | _ :: _ :: _, h => inv_mkIntersperse h
  | .zip ps => (buildAll_whenOk_inv ρ ps).bind fun _ h => .ite _ (fun _ => .error _) fun _ => inv_mkZip h
  | .keyZip ps => (buildAll_whenOk_inv ρ ps).bind fun _ _ => .ite _ (fun _ => .error _) fun _ => inv_mkKeyZip
  | .batch _ _ p => (build_whenOk_inv ρ p).bind fun _ h => .ok (.of_ordered h.ordered)
  | .unbatch p => (build_whenOk_inv ρ p).bind fun _ h => .ok (.of_ordered h.ordered)
  | .items p => (build_whenOk_inv ρ p).bind fun _ h => .ok (.of_ordered h.ordered)
  | .tile n p => (build_whenOk_inv ρ p).bind fun _ h => inv_mkTile n h
  | .shuffleOnce perm p => (build_whenOk_inv ρ p).bind fun _ h => inv_mkShuffleOnce perm h
  | .sort _ rev p => (build_whenOk_inv ρ p).bind fun _ h => inv_mkSort _ rev h
  | .shard k i p => (build_whenOk_inv ρ p).bind fun _ h => inv_mkShard k i h
  | .cache p => (build_whenOk_inv ρ p).bind fun _ h => inv_mkCache h
  | .cacheEager p => (build_whenOk_inv ρ p).bind fun _ _ => inv_mkCacheEager
  | .catch _ p => (build_whenOk_inv ρ p).bind fun _ h => .ok (.of_ordered h.ordered)
  | .copy _ p => build_whenOk_inv ρ p
  | .prefetch w b t ce p => (build_whenOk_inv ρ p).bind fun _ h =>
      whenOk_mkPrefetch w b t ce fun _ _ => .of_ordered h.ordered
  | .cycle p => (build_whenOk_inv ρ p).bind fun _ h => .ok (.of_ordered h.ordered)
theorem buildAll_whenOk_inv (ρ : Env) : (ps : Pipelines) → WhenOk (fun ds => ∀ d ∈ ds, BInv d) (buildAll ρ ps)
  | .nil => .ok fun _ hd => nomatch hd
  | .cons p ps => (build_whenOk_inv ρ p).bind fun _ h => (buildAll_whenOk_inv ρ ps).bind fun _ hs =>
      .ok (List.forall_mem_cons.2 ⟨h, hs⟩)
end

/-! ### every reference dataset is well-formed (C02 / C03 on the eager data) -/

mutual
theorem ref_whenOk_wf (ρ : Env) : (p : Pipeline) → Adm ρ p → WhenOk RefWF2 (ref ρ p)
  | .listSrc xs, _ => .ok (wf2_listSrc xs)
  | .dictSrc kvs, _ => .ok (wf2_dictSrc kvs)
  | .map _ p, ha => (ref_whenOk_wf ρ p ha).bind fun _ h => .ok (wf2_map _ h)
  | .parMap _ _ b p, ha => (ref_whenOk_wf ρ p ha).bind fun _ h =>
      .ite _ (fun _ => .ok (wf2_map _ h)) fun _ => .ok (wf2_parMap _ b h)
  | .filterLazy _ p, ha => (ref_whenOk_wf ρ p ha).bind fun _ h => .ok (wf2_filter _ h)
  | .filterEager _ _, _ => .bind_eq fun r _ => wf_mkFilterEager _ r
  | .slice s _, _ => .bind_eq fun r _ => wf_mkSlice s r
  | .concat ps, ha => (refAll_whenOk_wf ρ ps ha).bind fun _ h => wf_mkConcat h
  | .intersperse ps, ha => (refAll_whenOk_wf ρ ps ha).bind fun rs h =>
      match rs, h with
      | [], _ => .error _
      | [_], h => .ok (h _ (List.mem_singleton.mpr rfl))
      | _ :: _ :: _, h => wf_mkIntersperse h
  | .zip ps, ha => (refAll_whenOk_wf ρ ps ha).bind fun _ h => .ite _ (fun _ => .error _) fun _ => wf_mkZip h
  | .keyZip ps, ha => .bind_eq fun rs hrs => .ite _ (fun _ => .error _) fun _ =>
      wf_mkKeyZip ((refAll_whenOk_wf ρ ps ha.1).elim hrs) (ha.2 rs hrs)
  | .batch _ _ p, ha => (ref_whenOk_wf ρ p ha.1).bind fun _ h => .ok (wf2_batch h ha.2.1)
  | .unbatch p, ha => (ref_whenOk_wf ρ p ha).bind fun _ _ => .ok wf2_unbatch
  | .items p, ha => .bind_eq fun r hr => .ok (wf2_items ((ref_whenOk_wf ρ p ha.1).elim hr) (ha.2 r hr))
  | .tile n p, ha => (ref_whenOk_wf ρ p ha).bind fun _ h => wf_mkTile n h
  | .shuffleOnce perm _, _ => .bind_eq fun r _ => wf_mkShuffleOnce perm r
  | .sort _ rev _, _ => .bind_eq fun r _ => wf_mkSort _ rev r
  | .shard k i _, _ => .bind_eq fun r _ => wf_mkShard k i r
  | .cache p, ha => (ref_whenOk_wf ρ p ha).bind fun _ h => wf_mkCache h
  | .cacheEager p, ha => (ref_whenOk_wf ρ p ha).bind fun _ _ => wf_mkCacheEager
  | .catch E p, ha => .bind_eq fun r hr => .ok (wf2_catch E ((ref_whenOk_wf ρ p ha.1).elim hr).sized (ha.2 r hr))
  | .copy _ p, ha => ref_whenOk_wf ρ p ha
  | .prefetch w b t ce p, ha => .bind_eq fun r hr =>
      wf_mkPrefetch w b t ce (wf2_prefetch w t ce ((ref_whenOk_wf ρ p ha.1).elim hr) (ha.2 r hr))
  | .cycle _, ha => ha.elim
theorem refAll_whenOk_wf (ρ : Env) :
    (ps : Pipelines) → AdmAll ρ ps → WhenOk (fun rs => ∀ r ∈ rs, RefWF2 r) (refAll ρ ps)
  | .nil, _ => .ok fun _ hr => nomatch hr
  | .cons p ps, ha => (ref_whenOk_wf ρ p ha.1).bind fun _ h => (refAll_whenOk_wf ρ ps ha.2).bind fun _ hs =>
      .ok (List.forall_mem_cons.2 ⟨h, hs⟩)
end

theorem ref_wf (ρ : Env) : (p : Pipeline) → Adm ρ p → ∀ r, ref ρ p = .ok r → RefWF2 r :=
  fun p ha _ h => (ref_whenOk_wf ρ p ha).elim h

theorem refAll_wf (ρ : Env) : (ps : Pipelines) → AdmAll ρ ps → ∀ rs, refAll ρ ps = .ok rs → ∀ r ∈ rs, RefWF2 r :=
  fun ps ha _ h => (refAll_whenOk_wf ρ ps ha).elim h

/-! ### the refinement theorem, both directions at once -/

mutual
/-- What `build` returns against what `ref` returns: a dataset that refines the reference's, or the same
    refusal; the only exception is the guard corner (`¬ AdmErr`), where the model raises `AssertionError`
    and the reference `RuntimeError`. -/
theorem build_sim (ρ : Env) (hρ : EnvOK ρ) :
    (p : Pipeline) → Adm ρ p → Sim Rel (AdmErr ρ p) (build ρ p) (ref ρ p)
  | .listSrc xs, _ => .ok (rel_listSrc xs)
  | .dictSrc kvs, ha => .ok (rel_dictSrc kvs ha)
  | .map f p, ha => (build_sim ρ hρ p ha).bind fun _ _ _ _ h => .ok (rel_map _ (hρ f) h)
  | .parMap f _ b p, ha => (build_sim ρ hρ p ha).bind fun _ _ _ _ h =>
      .ite_same _ (fun _ => .ok (rel_map _ (hρ f) h)) fun _ => .ok (rel_parMap _ b (hρ f) h)
  | .filterLazy _ p, ha => (build_sim ρ hρ p ha).bind fun _ _ _ _ h => .ok (rel_filter _ h)
  | .filterEager _ p, ha => (build_sim ρ hρ p ha).bind fun _ _ hd _ h =>
      sim_mkFilterEager _ h ((build_whenOk_inv ρ p).elim hd)
  -- `AdmErr ρ (.slice s p)` is a conjunction: its first half is the corner proposition of the induction
  -- hypothesis, its second half implies that of `sim_mkSlice`; `Sim.mono` brings both to the whole
  | .slice s p, ha => ((build_sim ρ hρ p ha).mono And.left).bind fun d _ hd _ h =>
      (sim_mkSlice s h ((build_whenOk_inv ρ p).elim hd)).mono fun hae => hae.2 d hd
  | .concat ps, ha => (buildAll_sim ρ hρ ps ha).bind fun _ _ _ _ h => sim_mkConcat h
  | .intersperse ps, ha => (buildAll_sim ρ hρ ps ha).bind fun _ _ _ _ h => by
      cases h with
      | nil => exact .error _
      | cons h1 ht =>
        cases ht with
        | nil => exact .ok h1
        | cons h2 ht => exact sim_mkIntersperse (.cons h1 (.cons h2 ht))
  | .zip ps, ha => (buildAll_sim ρ hρ ps ha).bind fun _ _ _ _ h => by
      cases h with
      | nil => exact .error _
      | cons h1 ht => exact sim_mkZip (.cons h1 ht)
  | .keyZip ps, ha => (buildAll_sim ρ hρ ps ha.1).bind fun _ rs _ hrs h => by
      cases h with
      | nil => exact .error _
      | cons h1 ht => exact sim_mkKeyZip (.cons h1 ht) (ha.2 _ hrs)
  | .batch _ _ p, ha => (build_sim ρ hρ p ha.1).bind fun _ r _ hr h =>
      .ok (rel_batch_partial h ha.2.1 (ha.2.2 r hr))
  | .unbatch p, ha => (build_sim ρ hρ p ha).bind fun _ _ _ _ h => .ok (rel_unbatch h)
  | .items p, ha => (build_sim ρ hρ p ha.1).bind fun _ r _ hr h => .ok (rel_items h (ha.2 r hr))
  | .tile n p, ha => (build_sim ρ hρ p ha).bind fun _ _ _ _ h => sim_mkTile n h
  | .shuffleOnce perm p, ha => (build_sim ρ hρ p ha).bind fun _ _ hd _ h =>
      sim_mkShuffleOnce perm h ((build_whenOk_inv ρ p).elim hd)
  | .sort key rev p, ha => ((build_sim ρ hρ p ha).mono And.left).bind fun d _ hd _ h =>
      (sim_mkSort _ rev h ((build_whenOk_inv ρ p).elim hd)).mono fun hae hk => hae.2 (by simpa using hk) d hd
  | .shard k i p, ha => (build_sim ρ hρ p ha).bind fun _ _ hd _ h =>
      sim_mkShard k i h ((build_whenOk_inv ρ p).elim hd)
  | .cache p, ha => (build_sim ρ hρ p ha).bind fun _ _ _ _ h => sim_mkCache h
  | .cacheEager p, ha => (build_sim ρ hρ p ha).bind fun _ _ hd _ h =>
      sim_mkCacheEager h ((build_whenOk_inv ρ p).elim hd)
  | .catch E p, ha => (build_sim ρ hρ p ha.1).bind fun _ r _ hr h => .ok (rel_catch E h (ha.2 r hr))
  | .copy _ p, ha => build_sim ρ hρ p ha
  | .prefetch w b t ce p, ha => (build_sim ρ hρ p ha.1).bind fun _ r _ hr h =>
      sim_mkPrefetch w b t ce h (ha.2 r hr)
  | .cycle _, ha => ha.elim
theorem buildAll_sim (ρ : Env) (hρ : EnvOK ρ) :
    (ps : Pipelines) → AdmAll ρ ps → Sim (Forall₂ Rel) (AdmErrAll ρ ps) (buildAll ρ ps) (refAll ρ ps)
  | .nil, _ => .ok .nil
  | .cons p ps, ha => ((build_sim ρ hρ p ha.1).mono And.left).bind fun _ _ _ _ h =>
      ((buildAll_sim ρ hρ ps ha.2).mono And.right).bind fun _ _ _ _ hs => .ok (.cons h hs)
end

theorem build_ref (ρ : Env) (hρ : EnvOK ρ) :
    (p : Pipeline) → Adm ρ p → ∀ d, build ρ p = .ok d → ∃ r, ref ρ p = .ok r ∧ Rel d r :=
  fun p ha _ h => (build_sim ρ hρ p ha).ok_of h

theorem build_sound (ρ : Env) (hρ : EnvOK ρ) (p : Pipeline) (ha : Adm ρ p) {d : DS} (h : build ρ p = .ok d) :
    ∃ r, ref ρ p = .ok r ∧ Rel d r ∧ RefWF2 r := by
  obtain ⟨r, hr, hrel⟩ := build_ref ρ hρ p ha d h
  exact ⟨r, hr, hrel, ref_wf ρ p ha r hr⟩

end LazyDs
