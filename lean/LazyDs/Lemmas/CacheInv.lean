/-
  Invariants, reachability and helper lemmas for the state machine `LazyDs.Cache` (in-memory
  `CacheDataset`, C10): the shape of a step, the invariant `Inv`, the order `Le` in which the state
  only grows, and `TInv` for histories in which memory never runs short.  The final theorems are in
  `LazyDs.Props.C10`; the disk cache is in `LazyDs.Lemmas.DiskInv`.  Core Lean only.
-/
import LazyDs.Model.Cache
import LazyDs.Lemmas.Assoc
import LazyDs.Lemmas.Machine
import LazyDs.Lemmas.PyIndex
import LazyDs.Lemmas.ListAux

namespace LazyDs.Cache

variable {V : Type}

deriving instance DecidableEq for Out
deriving instance DecidableEq for Op
deriving instance DecidableEq for St

def keys (store : List (Nat × V)) : List Nat := store.map (·.1)

def Reach (up : Nat → Nat → V) (n : Nat) (s : St V) : Prop :=
  ∃ ops, (run up (init n) ops).1 = s

/-! ## `lookup` -/

theorem lookup_eq_none_iff {st : List (Nat × V)} {j : Nat} : lookup st j = none ↔ j ∉ keys st :=
  Assoc.lookup_eq_none_iff

theorem mem_of_lookup {st : List (Nat × V)} {j : Nat} {v : V} (h : lookup st j = some v) :
    (j, v) ∈ st := Assoc.mem_of_lookup h

theorem lookup_of_mem_nodup {st : List (Nat × V)} {j : Nat} {v : V}
    (hn : (keys st).Nodup) (hm : (j, v) ∈ st) : lookup st j = some v := Assoc.lookup_of_mem hn hm

theorem lookup_append (st e : List (Nat × V)) (j : Nat) :
    lookup (st ++ e) j = (lookup st j).orElse fun _ => lookup e j := Assoc.lookup_append st e j

theorem lookup_append_of_some {st e : List (Nat × V)} {j : Nat} {v : V}
    (h : lookup st j = some v) : lookup (st ++ e) j = some v := by
  rw [lookup_append, h]; rfl

theorem lookup_append_of_none {st e : List (Nat × V)} {j : Nat}
    (h : lookup st j = none) : lookup (st ++ e) j = lookup e j := by
  rw [lookup_append, h]; rfl

/-! ## `check` and the shape of a step -/

theorem check_snd_cases (s : St V) (inst : Nat) (mem : Bool) :
    (check s inst mem).2 = s.latch ∨
      (mem = false ∧ (check s inst mem).1 = false ∧ (check s inst mem).2 = s.latch.set inst false) := by
  unfold check
  split
  · split <;> simp_all
  · simp

theorem check_fst_true {s : St V} {inst : Nat} {mem : Bool} (h : (check s inst mem).1 = true) :
    mem = true ∧ s.latch[inst]? = some true ∧ (check s inst mem).2 = s.latch := by
  unfold check at h ⊢
  split at h
  · split at h <;> simp_all
  · simp at h

theorem check_true_of {s : St V} {inst : Nat} (h : s.latch[inst]? = some true) :
    check s inst true = (true, s.latch) := by
  simp [check, h]

theorem check_length (s : St V) (inst : Nat) (mem : Bool) :
    (check s inst mem).2.length = s.latch.length := by
  rcases check_snd_cases s inst mem with h | ⟨_, _, h⟩ <;> simp [h]

theorem step_copy_ok (up : Nat → Nat → V) {s : St V} {inst : Nat} (h : inst < s.latch.length) :
    step up s (.copy inst) = ({ s with latch := s.latch ++ [true] }, .newInst s.latch.length) := by
  simp [step, h]

theorem step_copy_bad (up : Nat → Nat → V) {s : St V} {inst : Nat} (h : s.latch.length ≤ inst) :
    step up s (.copy inst) = (s, .badInst) := by
  have : ¬ inst < s.latch.length := by omega
  simp [step, this]

def missSt (up : Nat → Nat → V) (s : St V) (inst : Nat) (mem : Bool) (j : Nat) : St V :=
  { s with
    store := if (check s inst mem).1 then s.store ++ [(j, up j (s.calls.getD j 0))] else s.store
    latch := (check s inst mem).2
    calls := s.calls.set j (s.calls.getD j 0 + 1) }

theorem step_get_eq (up : Nat → Nat → V) (s : St V) (inst : Nat) (i : Int) (mem : Bool) :
    step up s (.get inst i mem) =
      if s.latch.length ≤ inst then (s, .badInst) else
      match normIdx s.n i with
      | none => (s, .indexError)
      | some j =>
        match lookup s.store j with
        | some v => (s, .val v)
        | none => (missSt up s inst mem j, .val (up j (s.calls.getD j 0))) := by
  -- `step` with `normInt s.n i` for its inlined `let j`; the rest only unfolds, splitting on the same tests
  show (if inst ≥ s.latch.length then (s, Out.badInst) else
    if (normInt s.n i < 0 || normInt s.n i ≥ (s.n : Int)) = true then (s, .indexError) else
      match lookup s.store (normInt s.n i).toNat with
      | some v => (s, .val v)
      | none => _) = _
  unfold normIdx
  by_cases h : s.latch.length ≤ inst
  · rw [if_pos h, if_pos h]
  · rw [if_neg h, if_neg h]
    by_cases hn : (normInt s.n i < 0 || normInt s.n i ≥ (s.n : Int)) = true
    · rw [if_pos hn, if_pos hn]
    · rw [if_neg hn, if_neg hn]
      dsimp only
      cases lookup s.store (normInt s.n i).toNat with
      | some v => rfl
      | none =>
        unfold missSt
        cases check s inst mem with
        | mk ok l => cases ok <;> rfl

theorem step_get_out (up : Nat → Nat → V) {s : St V} {inst : Nat} {i : Int} (mem : Bool)
    (h : inst < s.latch.length) (hn : normIdx s.n i = none) :
    step up s (.get inst i mem) = (s, .indexError) := by
  rw [step_get_eq, if_neg (Nat.not_le.2 h), hn]

theorem step_get_hit (up : Nat → Nat → V) {s : St V} {inst : Nat} {i : Int} (mem : Bool)
    {j : Nat} {v : V}
    (h : inst < s.latch.length) (hn : normIdx s.n i = some j) (hl : lookup s.store j = some v) :
    step up s (.get inst i mem) = (s, .val v) := by
  rw [step_get_eq, if_neg (Nat.not_le.2 h), hn]; simp only [hl]

/-- only two kinds of step change the state: a `copy` of an existing instance and a `get` that misses -/
theorem step_preserves (up : Nat → Nat → V) {P : St V → Prop} {s : St V} (op : Op) (h : P s)
    (hcopy : ∀ inst, op = .copy inst → inst < s.latch.length →
      P { s with latch := s.latch ++ [true] })
    (hmiss : ∀ inst i mem j, op = .get inst i mem → inst < s.latch.length →
      normIdx s.n i = some j → lookup s.store j = none → P (missSt up s inst mem j)) :
    P (step up s op).1 := by
  cases op with
  | copy inst =>
    by_cases hi : inst < s.latch.length
    · rw [step_copy_ok up hi]; exact hcopy inst rfl hi
    · rw [step_copy_bad up (by omega)]; exact h
  | get inst i mem =>
    rw [step_get_eq]
    split
    · exact h
    · next hi =>
      split
      · exact h
      · next j hn =>
        split
        · exact h
        · next hl => exact hmiss inst i mem j rfl (Nat.lt_of_not_le hi) hn hl

theorem step_val {up : Nat → Nat → V} {s s' : St V} {inst : Nat} {i : Int} {mem : Bool} {v : V}
    (h : step up s (.get inst i mem) = (s', .val v)) :
    ∃ j, normIdx s.n i = some j ∧
      (lookup s.store j = some v ∧ s' = s ∨
        lookup s.store j = none ∧ v = up j (s.calls.getD j 0) ∧ s' = missSt up s inst mem j) := by
  rw [step_get_eq] at h
  split at h
  · cases h
  · split at h
    · cases h
    · next j hn =>
      split at h <;> cases h
      · next hl => exact ⟨j, hn, .inl ⟨hl, rfl⟩⟩
      · next hl => exact ⟨j, hn, .inr ⟨hl, rfl, rfl⟩⟩

/-! ## `run` -/

theorem isRun (up : Nat → Nat → V) : IsRun (step up) (run up) := ⟨fun _ => rfl, fun _ _ _ => rfl⟩

@[simp] theorem run_nil (up : Nat → Nat → V) (s : St V) : run up s [] = (s, []) := rfl

theorem run_cons (up : Nat → Nat → V) (s : St V) (op : Op) (ops : List Op) :
    run up s (op :: ops) =
      ((run up (step up s op).1 ops).1, (step up s op).2 :: (run up (step up s op).1 ops).2) := rfl

theorem run_length (up : Nat → Nat → V) (s : St V) (ops : List Op) :
    (run up s ops).2.length = ops.length := (isRun up).length s ops

theorem Reach.init (up : Nat → Nat → V) (n : Nat) : Reach up n (init n) := ⟨[], rfl⟩

theorem Reach.step {up : Nat → Nat → V} {n : Nat} {s : St V} (h : Reach up n s) (op : Op) :
    Reach up n (step up s op).1 := (isRun up).reach_step h op

theorem Reach.run {up : Nat → Nat → V} {n : Nat} {s : St V} (h : Reach up n s) (ops : List Op) :
    Reach up n (run up s ops).1 := (isRun up).reach_run h ops

/-! ## The invariant -/

structure Inv (up : Nat → Nat → V) (s : St V) : Prop where
  /-- the call counters cover exactly the examples -/
  calls_len : s.calls.length = s.n
  /-- at most one entry per example index -/
  nodup : (keys s.store).Nodup
  /-- every stored index is an example index -/
  key_lt : ∀ j v, (j, v) ∈ s.store → j < s.n
  /-- every stored value was produced by the upstream pipeline for that example -/
  produced : ∀ j v, (j, v) ∈ s.store → ∃ c, c < s.calls.getD j 0 ∧ v = up j c

theorem inv_init (up : Nat → Nat → V) (n : Nat) : Inv up (init n) where
  calls_len := by simp [init]
  nodup := by simp [init, keys]
  key_lt := by simp [init]
  produced := by simp [init]

theorem mem_missSt_store {up : Nat → Nat → V} {s : St V} {inst : Nat} {mem : Bool} {j : Nat}
    {p : Nat × V} (hp : p ∈ (missSt up s inst mem j).store) :
    p ∈ s.store ∨ (check s inst mem).1 = true ∧ p = (j, up j (s.calls.getD j 0)) := by
  simp only [missSt] at hp
  split at hp
  · next hc => rcases List.mem_append.1 hp with h | h
               · exact .inl h
               · exact .inr ⟨hc, List.mem_singleton.1 h⟩
  · exact .inl hp

theorem step_store_of_not_check (up : Nat → Nat → V) {s : St V} {inst : Nat} (i : Int) {mem : Bool}
    (h : ¬ (check s inst mem).1 = true) : (step up s (.get inst i mem)).1.store = s.store :=
  step_preserves up (P := fun t => t.store = s.store) _ rfl (fun _ e => nomatch e)
    fun _ _ _ _ e _ _ _ => by cases e; exact if_neg h

theorem inv_missSt {up : Nat → Nat → V} {s : St V} (hi : Inv up s) (inst : Nat) (mem : Bool)
    {j : Nat} (hj : j < s.n) (hl : lookup s.store j = none) : Inv up (missSt up s inst mem j) := by
  have hjl : j < s.calls.length := by rw [hi.calls_len]; exact hj
  refine ⟨?_, ?_, ?_, ?_⟩
  · simp [missSt, hi.calls_len]
  · show (keys (if _ then _ else _)).Nodup
    split
    · exact Assoc.nodup_keys_snoc hi.nodup hl
    · exact hi.nodup
  · intro k v hk
    rcases mem_missSt_store hk with h | ⟨_, h⟩
    · exact hi.key_lt k v h
    · cases h; exact hj
  · intro k v hk
    show ∃ c, c < (s.calls.set j (s.calls.getD j 0 + 1)).getD k 0 ∧ v = up k c
    rcases mem_missSt_store hk with h | ⟨_, h⟩
    · obtain ⟨c, hc, hv⟩ := hi.produced k v h
      exact ⟨c, Nat.lt_of_lt_of_le hc (List.getD_set_succ_ge _ _ _), hv⟩
    · cases h
      exact ⟨s.calls.getD j 0, by rw [List.getD_set_self _ hjl]; omega, rfl⟩

theorem inv_step {up : Nat → Nat → V} {s : St V} (hi : Inv up s) (op : Op) :
    Inv up (step up s op).1 :=
  step_preserves up op hi (fun _ _ _ => ⟨hi.calls_len, hi.nodup, hi.key_lt, hi.produced⟩)
    (fun inst _ mem _ _ _ hn hl => inv_missSt hi inst mem (normIdx_lt hn) hl)

theorem inv_run {up : Nat → Nat → V} {s : St V} (hi : Inv up s) (ops : List Op) :
    Inv up (run up s ops).1 :=
  (isRun up).inv (P := Inv up) (fun _ op _ h => inv_step h op) hi

theorem Reach.inv {up : Nat → Nat → V} {n : Nat} {s : St V} (h : Reach up n s) : Inv up s := by
  obtain ⟨ops, rfl⟩ := h
  exact inv_run (inv_init up n) ops

/-! ## The state only grows -/

/-- `t` is a later state than `s`: same dataset, the store has only gained entries at the end, no
    instance has gone, a latched instance is still latched -/
structure Le (s t : St V) : Prop where
  n : t.n = s.n
  store : s.store <+: t.store
  latch_len : s.latch.length ≤ t.latch.length
  latch_false : ∀ k : Nat, s.latch[k]? = some false → t.latch[k]? = some false

theorem Le.refl (s : St V) : Le s s :=
  ⟨rfl, List.prefix_refl _, Nat.le_refl _, fun _ h => h⟩

theorem Le.trans {s t u : St V} (h : Le s t) (h' : Le t u) : Le s u :=
  ⟨h'.n.trans h.n, h.store.trans h'.store, Nat.le_trans h.latch_len h'.latch_len,
    fun k hk => h'.latch_false k (h.latch_false k hk)⟩

theorem Le.lookup {s t : St V} (h : Le s t) {j : Nat} {v : V} (hl : lookup s.store j = some v) :
    lookup t.store j = some v := by
  obtain ⟨e, he⟩ := h.store
  rw [← he]; exact lookup_append_of_some hl

theorem step_le (up : Nat → Nat → V) (s : St V) (op : Op) : Le s (step up s op).1 := by
  refine step_preserves up (P := Le s) op (Le.refl s) (fun _ _ _ => ?_) fun inst _ mem _ _ _ _ _ => ?_
  · exact ⟨rfl, List.prefix_refl _, by simp, fun k hk =>
      (List.getElem?_append_left (List.getElem?_eq_some_iff.1 hk).1).trans hk⟩
  · refine ⟨rfl, ?_, Nat.le_of_eq (check_length s inst mem).symm, fun k hk => ?_⟩
    · show s.store <+: (if _ then _ else _)
      split
      · exact List.prefix_append _ _
      · exact List.prefix_refl _
    · show (check s inst mem).2[k]? = some false
      rcases check_snd_cases s inst mem with e | ⟨_, _, e⟩ <;> rw [e]
      · exact hk
      · rw [List.getElem?_set]
        split
        · simp [*]
        · exact hk

theorem run_le (up : Nat → Nat → V) (s : St V) (ops : List Op) : Le s (run up s ops).1 :=
  (isRun up).inv (P := Le s) (fun t op _ h => h.trans (step_le up t op)) (Le.refl s)

theorem Reach.n_eq {up : Nat → Nat → V} {n : Nat} {s : St V} (h : Reach up n s) : s.n = n := by
  obtain ⟨ops, rfl⟩ := h
  exact (run_le up _ ops).n

theorem latch_length_step (up : Nat → Nat → V) (s : St V) (op : Op) :
    s.latch.length ≤ (step up s op).1.latch.length := (step_le up s op).latch_len

/-! ## Histories in which memory never runs short -/

def AllMem (ops : List Op) : Prop := ∀ inst i mem, Op.get inst i mem ∈ ops → mem = true

/-- the stronger invariant of such histories: no instance is latched, every example is either
    not yet evaluated or evaluated once and stored as that first value -/
structure TInv (up : Nat → Nat → V) (s : St V) : Prop where
  latch_true : ∀ (k : Nat) (b : Bool), s.latch[k]? = some b → b = true
  calls_le : ∀ j, s.calls.getD j 0 ≤ 1
  calls_zero : ∀ j, j ∉ keys s.store → s.calls.getD j 0 = 0
  first : ∀ j v, (j, v) ∈ s.store → v = up j 0

theorem tinv_init (up : Nat → Nat → V) (n : Nat) : TInv up (init n) := by
  have h0 : ∀ j, (List.replicate n 0).getD j 0 = 0 := fun j => by
    rw [List.getD_eq_getElem?_getD, List.getElem?_replicate]; split <;> rfl
  refine ⟨fun k b h => ?_, fun j => Nat.le_trans (Nat.le_of_eq (h0 j)) (Nat.zero_le 1),
    fun j _ => h0 j, nofun⟩
  cases k with
  | zero => cases h; rfl
  | succ k => cases h

theorem tinv_step {up : Nat → Nat → V} {s : St V} (hi : Inv up s) (ht : TInv up s) (op : Op)
    (hm : ∀ inst i mem, op = .get inst i mem → mem = true) : TInv up (step up s op).1 := by
  refine step_preserves up op ht (fun _ _ _ => ⟨?_, ht.calls_le, ht.calls_zero, ht.first⟩)
    fun inst i mem j e hlt hn hl => ?_
  · intro k b hk
    rcases List.getElem?_append_singleton hk with hk | ⟨_, rfl⟩
    · exact ht.latch_true k b hk
    · rfl
  · cases hm inst i mem e
    have hj : j < s.calls.length := by rw [hi.calls_len]; exact normIdx_lt hn
    have hz : s.calls.getD j 0 = 0 := ht.calls_zero j (lookup_eq_none_iff.1 hl)
    have hck := check_true_of (ht.latch_true inst _ (List.getElem?_eq_getElem hlt) ▸
      List.getElem?_eq_getElem hlt)
    refine ⟨?_, ?_, ?_, ?_⟩
    · simp only [missSt, hck]; exact ht.latch_true
    · intro k
      simp only [missSt]
      by_cases e : j = k
      · subst e; rw [List.getD_set_self _ hj]; omega
      · rw [List.getD_set_ne _ e]; exact ht.calls_le k
    · intro k hk
      simp only [missSt, hck, if_true, keys, List.map_append, List.map_cons, List.map_nil,
        List.mem_append, List.mem_singleton, not_or] at hk ⊢
      rw [List.getD_set_ne _ (Ne.symm hk.2)]
      exact ht.calls_zero k hk.1
    · intro k v hk
      rcases mem_missSt_store hk with hk | ⟨_, hk⟩
      · exact ht.first k v hk
      · cases hk; rw [hz]

theorem tinv_val {up : Nat → Nat → V} {s : St V} (ht : TInv up s) {inst : Nat} {i : Int}
    {mem : Bool} {v : V} (h : (step up s (.get inst i mem)).2 = .val v) :
    ∃ j, normIdx s.n i = some j ∧ v = up j 0 := by
  obtain ⟨j, hn, ⟨hl, -⟩ | ⟨hl, rfl, -⟩⟩ :=
    step_val (s' := (step up s (.get inst i mem)).1) (Prod.ext rfl h)
  · exact ⟨j, hn, ht.first j v (mem_of_lookup hl)⟩
  · exact ⟨j, hn, by rw [ht.calls_zero j (lookup_eq_none_iff.1 hl)]⟩

theorem tinv_run {up : Nat → Nat → V} {s : St V} (hi : Inv up s) (ht : TInv up s)
    (ops : List Op) (hm : AllMem ops) :
    TInv up (run up s ops).1 ∧
      ∀ (k inst : Nat) (i : Int) (mem : Bool) (v : V), ops[k]? = some (Op.get inst i mem) →
        (run up s ops).2[k]? = some (Out.val v) → ∃ j, normIdx s.n i = some j ∧ v = up j 0 := by
  let P (t : St V) : Prop := Inv up t ∧ TInv up t ∧ t.n = s.n
  let Q (op : Op) (o : Out V) : Prop := ∀ inst i mem v, op = .get inst i mem → o = .val v →
    ∃ j, normIdx s.n i = some j ∧ v = up j 0
  have hstep : ∀ t, ∀ op ∈ ops, P t → P (step up t op).1 ∧ Q op (step up t op).2 := by
    intro t op ho ⟨hi, ht, hn⟩
    refine ⟨⟨inv_step hi op, tinv_step hi ht op fun inst i mem e => hm inst i mem (e ▸ ho),
      (step_le up t op).n.trans hn⟩, ?_⟩
    rintro inst i mem v rfl hv
    exact hn ▸ tinv_val ht hv
  have hs : P s := ⟨hi, ht, rfl⟩
  exact ⟨((isRun up).inv (fun t op ho h => (hstep t op ho h).1) hs).2.1,
    fun k inst i mem v hk ho => (isRun up).out hstep hs hk ho inst i mem v rfl rfl⟩

/-! ## A concrete history (used by the examples of `LazyDs.Props.C10`) -/
namespace Ex

/-- a value shows how often its example had been evaluated before, so that a second evaluation is seen -/
def upEx (j c : Nat) : Nat := 100 * j + c

def hist : List Op :=
  [ .get 0 1 true,        -- miss, stored:            100
    .get 0 (-2) true,     -- the same entry, hit:     100
    .copy 0,              -- instance 1
    .get 1 (-1) false,    -- miss, memory short: instance 1 latches, nothing stored: 200
    .get 1 2 true,        -- instance 1 is latched: evaluated again, not stored:     201
    .get 0 2 true,        -- instance 0 still caches: evaluated again, stored:       202
    .get 1 (-1) true,     -- the latched copy sees the shared store: hit              202
    .get 0 5 true,        -- IndexError
    .get 7 0 true ]       -- no such instance

def histMem : List Op :=
  [ .get 0 1 true, .get 0 (-2) true, .copy 0, .get 1 (-1) true, .get 1 2 true, .get 0 2 true,
    .get 1 (-3) true, .get 0 0 true ]

def sEx : St Nat := (run upEx (init 3) hist).1

theorem sEx_reach : Reach upEx 3 sEx := ⟨hist, rfl⟩

end Ex

end LazyDs.Cache
