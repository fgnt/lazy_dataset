import LazyDs.Model.Db
import LazyDs.Lemmas.Assoc
import LazyDs.Lemmas.Machine
/-
  Helper lemmas for C19 (`lazy_dataset/database.py`).  The association lists of the model stand for
  Python dicts only when their keys are distinct (`WF`); `dict.update` is reasoned about through
  `lookup`, with that hypothesis (`lookup_update`) and without it (`lookup_update_last`).
  `mergeInto_cons`, `getExamples_dataset`/`_alias` and `mstep_get` bring a function of the model
  into the form in which the C19 theorems use it.  CORE LEAN ONLY.
-/
namespace LazyDs.Db

/-- what makes the association lists of a description Python dicts -/
structure WF (d : Desc) : Prop where
  datasets_nodup : (keysOf d.datasets).Nodup
  examples_nodup : ∀ p ∈ d.datasets, (keysOf p.2).Nodup
  alias_nodup : (keysOf (d.alias.getD [])).Nodup

/-! ### `lookup` -/

section lookup
variable {α : Type}

@[simp] theorem lookup_nil (k : String) : lookup ([] : List (String × α)) k = none := rfl

theorem lookup_cons (p : String × α) (l : List (String × α)) (k : String) :
    lookup (p :: l) k = if p.1 = k then some p.2 else lookup l k := by
  rw [show lookup (p :: l) k = _ from Assoc.lookup_cons p l k]
  simp
  rfl

@[simp] theorem keysOf_nil : keysOf ([] : List (String × α)) = [] := rfl

@[simp] theorem keysOf_cons (p : String × α) (l : List (String × α)) :
    keysOf (p :: l) = p.1 :: keysOf l := rfl

@[simp] theorem keysOf_append (l₁ l₂ : List (String × α)) :
    keysOf (l₁ ++ l₂) = keysOf l₁ ++ keysOf l₂ := List.map_append

theorem lookup_eq_none_iff (l : List (String × α)) (k : String) :
    lookup l k = none ↔ k ∉ keysOf l := Assoc.lookup_eq_none_iff

theorem lookup_isSome_iff (l : List (String × α)) (k : String) :
    (lookup l k).isSome = true ↔ k ∈ keysOf l := by
  rw [← Decidable.not_iff_not, ← lookup_eq_none_iff, Bool.not_eq_true, Option.isSome_eq_false_iff,
    Option.isNone_iff_eq_none]

theorem mem_keysOf_of_lookup {l : List (String × α)} {k : String} {v : α}
    (h : lookup l k = some v) : k ∈ keysOf l := by
  rw [← lookup_isSome_iff, h]; rfl

theorem mem_of_lookup {l : List (String × α)} {k : String} {v : α}
    (h : lookup l k = some v) : (k, v) ∈ l := Assoc.mem_of_lookup h

theorem lookup_of_mem {l : List (String × α)} (hn : (keysOf l).Nodup) {k : String} {v : α}
    (h : (k, v) ∈ l) : lookup l k = some v := Assoc.lookup_of_mem hn h

theorem lookup_append (l₁ l₂ : List (String × α)) (k : String) :
    lookup (l₁ ++ l₂) k = (lookup l₁ k).orElse (fun _ => lookup l₂ k) := Assoc.lookup_append l₁ l₂ k

theorem lookup_reverse {l : List (String × α)} (hn : (keysOf l).Nodup) (k : String) :
    lookup l.reverse k = lookup l k := by
  have hn' : (keysOf l.reverse).Nodup := by
    rw [keysOf, List.map_reverse]
    exact (List.reverse_perm _).nodup_iff.2 hn
  cases h : lookup l k with
  | none =>
    rw [lookup_eq_none_iff] at h ⊢
    simpa [keysOf] using h
  | some v =>
    exact lookup_of_mem hn' (List.mem_reverse.2 (mem_of_lookup h))

end lookup

/-- `WF` supplies the per-member hypothesis of `C19_alias_concat` (`hnd`) for every name -/
theorem WF.member_nodup {d : Desc} (h : WF d) (m : String) :
    (keysOf ((lookup d.datasets m).getD [])).Nodup := by
  cases hl : lookup d.datasets m with
  | none => simp
  | some ex => exact h.examples_nodup (m, ex) (mem_of_lookup hl)

/-! ### `intersects` -/

theorem intersects_eq_true_iff (a b : List String) :
    intersects a b = true ↔ ∃ k, k ∈ a ∧ k ∈ b := by
  simp [intersects]

theorem intersects_eq_false_iff (a b : List String) :
    intersects a b = false ↔ ∀ k, k ∈ a → k ∉ b := by
  rw [← Bool.not_eq_true, intersects_eq_true_iff]
  simp

@[simp] theorem intersects_nil_left (b : List String) : intersects [] b = false := rfl

/-! ### `update` (`dict.update`) -/

section update
variable {α : Type}

@[simp] theorem update_nil (l : List (String × α)) : update l [] = l := rfl

theorem update_cons (l : List (String × α)) (k : String) (v : α) (rest : List (String × α)) :
    update l ((k, v) :: rest) = update (Assoc.set l k v) rest := rfl

/-- `d[k] = v; d[k']` -/
theorem lookup_set (l : List (String × α)) (k : String) (v : α) (k' : String) :
    lookup (Assoc.set l k v) k' = if k' = k then some v else lookup l k' := by
  rw [show lookup (Assoc.set l k v) k' = _ from Assoc.lookup_set l k v k']
  simp only [beq_iff_eq, eq_comm (a := k)]; rfl

/-- `dict.update` seen through `lookup`, no hypothesis: the LAST entry of `u` for a key wins -/
theorem lookup_update_last (l u : List (String × α)) (k : String) :
    lookup (update l u) k = (lookup u.reverse k).orElse (fun _ => lookup l k) := by
  induction u generalizing l with
  | nil => simp
  | cons p rest ih =>
    obtain ⟨k₀, v₀⟩ := p
    rw [update_cons, ih, lookup_set, List.reverse_cons, lookup_append, lookup_cons]
    cases lookup rest.reverse k with
    | some w => simp
    | none =>
      by_cases hk : k = k₀
      · subst hk; simp
      · have : ¬ k₀ = k := fun e => hk e.symm
        simp [hk, this]

theorem lookup_update (l : List (String × α)) {u : List (String × α)} (hn : (keysOf u).Nodup)
    (k : String) :
    lookup (update l u) k = (lookup u k).orElse (fun _ => lookup l k) := by
  rw [lookup_update_last, lookup_reverse hn]

theorem mem_keysOf_update (l u : List (String × α)) (k : String) :
    k ∈ keysOf (update l u) ↔ k ∈ keysOf l ∨ k ∈ keysOf u := by
  rw [← lookup_isSome_iff, lookup_update_last]
  have hu : k ∈ keysOf u ↔ k ∈ keysOf u.reverse := by simp [keysOf]
  rw [hu, ← lookup_isSome_iff, ← lookup_isSome_iff]
  cases lookup u.reverse k <;> cases lookup l k <;> simp

theorem set_of_not_mem {l : List (String × α)} {k : String} (h : k ∉ keysOf l) (v : α) :
    Assoc.set l k v = l ++ [(k, v)] := by
  rw [Assoc.set, show Assoc.lookup l k = none from (lookup_eq_none_iff l k).2 h]; rfl

theorem update_eq_append {l u : List (String × α)} (hd : ∀ k, k ∈ keysOf u → k ∉ keysOf l)
    (hn : (keysOf u).Nodup) : update l u = l ++ u := by
  induction u generalizing l with
  | nil => simp
  | cons p rest ih =>
    obtain ⟨k₀, v₀⟩ := p
    rw [keysOf_cons, List.nodup_cons] at hn
    rw [update_cons, set_of_not_mem (hd k₀ (by simp)), ih _ hn.2]
    · simp
    · intro k hk
      rw [keysOf_append, List.mem_append]
      rintro (h | h)
      · exact hd k (by simp [hk]) h
      · simp at h; subst h; exact hn.1 hk

theorem update_nil_left {u : List (String × α)} (hn : (keysOf u).Nodup) :
    update ([] : List (String × α)) u = u := by
  rw [update_eq_append (by simp) hn]; rfl

end update

/-! ### `collectAlias` -/

/-- the stored examples of the members of an alias, member after member -/
def memberExamples (ds : Datasets) (members : List String) : Examples :=
  (members.map (fun m => (lookup ds m).getD [])).flatten

theorem keysOf_memberExamples (ds : Datasets) (members : List String) :
    keysOf (memberExamples ds members) =
      (members.map (fun m => keysOf ((lookup ds m).getD []))).flatten := by
  simp [memberExamples, keysOf, Function.comp_def]

theorem collectAlias_ok (ds : Datasets) (members : List String) (acc : Examples)
    (hex : ∀ m, m ∈ members → ∃ ex, lookup ds m = some ex)
    (hn : (keysOf acc ++ keysOf (memberExamples ds members)).Nodup) :
    collectAlias ds members acc = .ok (acc ++ memberExamples ds members) := by
  induction members generalizing acc with
  | nil => simp [collectAlias, memberExamples]
  | cons m rest ih =>
    obtain ⟨ex, hm⟩ := hex m (by simp)
    have hme : memberExamples ds (m :: rest) = ex ++ memberExamples ds rest := by
      simp [memberExamples, hm]
    rw [hme, keysOf_append, ← List.append_assoc] at hn
    have hn1 := (List.nodup_append.1 hn).1
    have hdisj : intersects (keysOf acc) (keysOf ex) = false := by
      rw [intersects_eq_false_iff]
      intro k hk hk'
      exact (List.nodup_append.1 hn1).2.2 k hk k hk' rfl
    have hupd : update acc ex = acc ++ ex :=
      update_eq_append (fun k hk hk' => (List.nodup_append.1 hn1).2.2 k hk' k hk rfl)
        (List.nodup_append.1 hn1).2.1
    rw [collectAlias, hm]
    simp only [hdisj, Bool.false_eq_true, if_false]
    rw [hupd, ih (acc ++ ex) (fun m' h' => hex m' (List.mem_cons_of_mem _ h'))
      (by rw [keysOf_append]; exact hn), hme, List.append_assoc]

theorem collectAlias_append (ds : Datasets) (pre post : List String) (acc : Examples) :
    collectAlias ds (pre ++ post) acc = (collectAlias ds pre acc).bind (collectAlias ds post) := by
  induction pre generalizing acc with
  | nil => rfl
  | cons m pre ih =>
    rw [List.cons_append, collectAlias, collectAlias]
    cases lookup ds m with
    | none => rfl
    | some ex =>
      dsimp only
      split
      · rfl
      · exact ih _

/-- two members share no example id -/
def MembersDisjoint (ds : Datasets) (m₁ m₂ : String) : Prop :=
  ∀ k, k ∈ keysOf ((lookup ds m₁).getD []) → k ∉ keysOf ((lookup ds m₂).getD [])

theorem nodup_memberKeys (ds : Datasets) (members : List String)
    (hnd : ∀ m, m ∈ members → (keysOf ((lookup ds m).getD [])).Nodup)
    (hdisj : members.Pairwise (MembersDisjoint ds)) :
    (keysOf (memberExamples ds members)).Nodup := by
  rw [keysOf_memberExamples, List.Nodup, List.pairwise_flatten]
  constructor
  · intro l hl
    obtain ⟨m, hm, rfl⟩ := List.mem_map.1 hl
    exact hnd m hm
  · rw [List.pairwise_map]
    refine hdisj.imp ?_
    intro m₁ m₂ h x hx y hy e
    subst e
    exact h x hx hy

theorem collectAlias_total (ds : Datasets) (members : List String) (acc : Examples)
    (hex : ∀ m, m ∈ members → ∃ ex, lookup ds m = some ex) :
    collectAlias ds members acc = .error .assertionError ∨
      (∃ r, collectAlias ds members acc = .ok r ∧
        (∀ m, m ∈ members → ∀ k, k ∈ keysOf ((lookup ds m).getD []) → k ∉ keysOf acc) ∧
        members.Pairwise (MembersDisjoint ds)) := by
  induction members generalizing acc with
  | nil => right; exact ⟨acc, rfl, by simp, List.Pairwise.nil⟩
  | cons m rest ih =>
    obtain ⟨ex, hm⟩ := hex m (by simp)
    rw [collectAlias, hm]
    by_cases hi : intersects (keysOf acc) (keysOf ex) = true
    · left; simp [hi]
    · simp only [hi]
      have hi' := (intersects_eq_false_iff _ _).1 (by simpa using hi)
      rcases ih (update acc ex) (fun m' h' => hex m' (List.mem_cons_of_mem _ h')) with h | ⟨r, hr, h1, h2⟩
      · left; exact h
      · right
        refine ⟨r, hr, ?_, ?_⟩
        · intro m' hm' k hk hka
          rcases List.mem_cons.1 hm' with e | hm'
          · subst e; rw [hm] at hk; exact hi' k hka hk
          · exact h1 m' hm' k hk ((mem_keysOf_update _ _ _).2 (Or.inl hka))
        · rw [List.pairwise_cons]
          refine ⟨?_, h2⟩
          intro m' hm' k hk hk'
          rw [hm] at hk
          exact h1 m' hm' k hk' ((mem_keysOf_update _ _ _).2 (Or.inr hk))

theorem collectAlias_overlap (ds : Datasets) (m : String) (rest : List String) (acc ex : Examples)
    (hm : lookup ds m = some ex) (h : intersects (keysOf acc) (keysOf ex) = true) :
    collectAlias ds (m :: rest) acc = .error .assertionError := by
  rw [collectAlias, hm]; simp [h]

/-! ### `mergeInto` -/

/-- the dataset and alias names of a description: what it introduces, and what a later
    description must not reuse -/
def takenNames (d : Desc) : List String := keysOf d.datasets ++ keysOf (d.alias.getD [])

/-- what a later description `d` adds to the result `r` so far -/
def mergeOne (r d : Desc) : Desc :=
  { r with
    datasets := update r.datasets d.datasets
    alias := match d.alias with
      | none => r.alias
      | some al => some (update (r.alias.getD []) al) }

theorem mergeOne_alias_getD (r d : Desc) :
    (mergeOne r d).alias.getD [] = update (r.alias.getD []) (d.alias.getD []) := by
  unfold mergeOne
  cases d.alias <;> rfl

theorem mergeInto_cons (r d : Desc) (rest : List Desc) :
    mergeInto r (d :: rest) =
      if d.extra = [] ∧ ∀ n ∈ takenNames d, n ∉ takenNames r then mergeInto (mergeOne r d) rest
      else .error .assertionError := by
  have hc : (∀ n ∈ takenNames d, n ∉ takenNames r) ↔
      intersects (keysOf d.datasets) (takenNames r) = false ∧
        intersects (keysOf (d.alias.getD [])) (takenNames r) = false := by
    rw [intersects_eq_false_iff, intersects_eq_false_iff]
    exact ⟨fun h => ⟨fun k hk => h k (List.mem_append_left _ hk),
        fun k hk => h k (List.mem_append_right _ hk)⟩,
      fun h k hk => (List.mem_append.1 hk).elim (h.1 k) (h.2 k)⟩
  rw [mergeInto]
  simp only [hc, mergeOne, ← show takenNames r = keysOf r.datasets ++ keysOf (r.alias.getD []) from rfl]
  cases d.extra with
  | cons a b => rfl
  | nil =>
    cases intersects (keysOf d.datasets) (takenNames r) with
    | true => rfl
    | false =>
      cases d.alias with
      | none => rfl
      | some al => cases h : intersects (keysOf al) (takenNames r) <;> simp [h]

/-! ### `getExamples` -/

theorem getExamples_dataset (d : Desc) (name : String)
    (ha : lookup (d.alias.getD []) name = none) :
    getExamples d name =
      match lookup d.datasets name with
      | none => .error .keyError
      | some ex => if ex.isEmpty then .error .runtimeError
          else .ok (ex.map (fun (id, f) => (id, augment name id f))) := by
  unfold getExamples
  rw [ha]
  cases lookup d.datasets name <;> rfl

theorem getExamples_alias (d : Desc) (name : String) (members : List String)
    (ha : lookup (d.alias.getD []) name = some members) :
    getExamples d name =
      match collectAlias d.datasets members [] with
      | .error e => .error e
      | .ok raw => if raw.isEmpty then .error .runtimeError
          else .ok (raw.map (fun (id, f) => (id, augment name id f))) := by
  cases h : collectAlias d.datasets members [] <;> simp [getExamples, ha, h, bind, Except.bind]

/-- the examples `getExamples` delivers for `n`, nothing if it raises -/
def examplesOr (d : Desc) (n : String) : Examples :=
  match getExamples d n with
  | .ok p => p
  | .error _ => []

/-! ### the weak memo -/

def mrun (d : Desc) (s : MemoSt) (ops : List MOp) : MemoSt :=
  ops.foldl (fun s op => (mstep d s op).1) s

@[simp] theorem mrun_nil (d : Desc) (s : MemoSt) : mrun d s [] = s := rfl

@[simp] theorem mrun_cons (d : Desc) (s : MemoSt) (op : MOp) (ops : List MOp) :
    mrun d s (op :: ops) = mrun d (mstep d s op).1 ops := rfl

/-- every live object was created earlier: its identity is below the next identity -/
def MemoWF (s : MemoSt) : Prop := ∀ p, p ∈ s.memo → p.2 < s.next

/-- a request, with `get_examples` asked first: the memo only decides which object answers -/
theorem mstep_get (d : Desc) (s : MemoSt) (name : String) :
    mstep d s (.get name) =
      match getExamples d name with
      | .error e => (s, some (.error e))
      | .ok ex =>
        match lookup s.memo name with
        | some id => (s, some (.ok (id, ex)))
        | none =>
          ({ memo := s.memo ++ [(name, s.next)], next := s.next + 1 }, some (.ok (s.next, ex))) := by
  simp only [mstep]
  cases lookup s.memo name <;> cases getExamples d name <;> rfl

/-- only two kinds of step change the memo: a collection, and a successful request for a name that
    is not live -/
theorem mstep_preserves (d : Desc) {P : MemoSt → Prop} {s : MemoSt} (op : MOp) (h : P s)
    (hgc : ∀ name, op = .gc name → P { s with memo := s.memo.filter (·.1 != name) })
    (hnew : ∀ name, op = .get name → lookup s.memo name = none →
      P { memo := s.memo ++ [(name, s.next)], next := s.next + 1 }) : P (mstep d s op).1 := by
  cases op with
  | gc name => exact hgc name rfl
  | get name =>
    rw [mstep_get]
    cases getExamples d name with
    | error e => exact h
    | ok ex =>
      cases hl : lookup s.memo name with
      | some id => exact h
      | none => exact hnew name rfl hl

theorem mstep_next_le (d : Desc) (s : MemoSt) (op : MOp) : s.next ≤ (mstep d s op).1.next :=
  mstep_preserves d (P := fun t => s.next ≤ t.next) op (Nat.le_refl _) (fun _ _ => Nat.le_refl _)
    (fun _ _ _ => Nat.le_succ _)

theorem mrun_next_le (d : Desc) (s : MemoSt) (ops : List MOp) : s.next ≤ (mrun d s ops).next :=
  foldl_inv (P := fun t => s.next ≤ t.next)
    (fun t op _ h => Nat.le_trans h (mstep_next_le d t op)) (Nat.le_refl _)

theorem memoWF_mstep (d : Desc) (s : MemoSt) (op : MOp) (h : MemoWF s) : MemoWF (mstep d s op).1 :=
  mstep_preserves d op h (fun _ _ p hp => h p (List.mem_filter.1 hp).1) fun _ _ _ p hp =>
    (List.mem_append.1 hp).elim (fun hp => Nat.lt_succ_of_lt (h p hp))
      fun hp => by cases List.mem_singleton.1 hp; exact Nat.lt_succ_self _

theorem memoWF_mrun (d : Desc) (s : MemoSt) (ops : List MOp) (h : MemoWF s) :
    MemoWF (mrun d s ops) :=
  foldl_inv (P := MemoWF) (fun t op _ h => memoWF_mstep d t op h) h

theorem lookup_filter_ne {α : Type} (l : List (String × α)) {other name : String}
    (hne : other ≠ name) : lookup (l.filter (·.1 != other)) name = lookup l name := by
  induction l with
  | nil => rfl
  | cons p l ih =>
    by_cases hp : p.1 = other
    · have : ¬ p.1 = name := fun e => hne (hp ▸ e)
      simp [hp, lookup_cons, ih, hp ▸ this]
    · simp [hp, lookup_cons, ih]

theorem mstep_keeps (d : Desc) (s : MemoSt) (op : MOp) (name : String) (id : Nat)
    (hop : op ≠ .gc name) (hl : lookup s.memo name = some id) :
    lookup (mstep d s op).1.memo name = some id :=
  mstep_preserves d (P := fun t => lookup t.memo name = some id) op hl
    (fun other e => (lookup_filter_ne _ fun e' : other = name => hop (e' ▸ e)).trans hl)
    (fun _ _ _ => by rw [lookup_append, hl]; rfl)

theorem mrun_keeps (d : Desc) (s : MemoSt) (ops : List MOp) (name : String) (id : Nat)
    (hops : ∀ op, op ∈ ops → op ≠ .gc name) (hl : lookup s.memo name = some id) :
    lookup (mrun d s ops).memo name = some id :=
  foldl_inv (P := fun t => lookup t.memo name = some id)
    (fun t op ho h => mstep_keeps d t op name id (hops op ho) h) hl

theorem lookup_after_gc (d : Desc) (s : MemoSt) (name : String) :
    lookup (mstep d s (.gc name)).1.memo name = none := by
  rw [lookup_eq_none_iff]
  simp [mstep, keysOf]

theorem lookup_after_get {d : Desc} {s : MemoSt} {name : String} {id : Nat} {ex : Examples}
    (h : (mstep d s (.get name)).2 = some (.ok (id, ex))) :
    lookup (mstep d s (.get name)).1.memo name = some id ∧ getExamples d name = .ok ex := by
  rw [mstep_get] at h ⊢
  cases hg : getExamples d name with
  | error e => rw [hg] at h; cases h
  | ok ex' =>
    rw [hg] at h
    cases hl : lookup s.memo name with
    | some id' => rw [hl] at h; cases h; exact ⟨hl, rfl⟩
    | none =>
      rw [hl] at h; cases h
      exact ⟨by rw [lookup_append, hl, lookup_cons, if_pos rfl]; rfl, rfl⟩

/-! ### concrete descriptions for the examples in `Props/C19.lean` -/

def demo : Desc where
  datasets := [("train", [("a", [("x", .int 1)]), ("b", [("x", .int 2)])]),
               ("dev", [("c", [("x", .int 3)])]),
               ("dev2", [("a", [("x", .int 9)])]),
               ("empty", [])]
  alias := some [("all", ["train", "dev"]), ("bad", ["train", "dev2"])]
  extra := ["meta"]

def demoLater : Desc where
  datasets := [("test", [("t", [("x", .int 4)])])]
  alias := some [("eval", ["test"])]

def demoPlain : Desc where
  datasets := [("train", [("a", [("x", .int 1)])])]
  alias := none
  extra := ["meta"]

end LazyDs.Db
