/-
  Final theorems about `lazy_parallel_map` (model: `LazyDs.Conc.Lpm`).
  Every statement quantifies over every reachable state, i.e. over every interleaving of the
  consumer, the environment (`resume`/`close`) and the pool (`start`/`finish i`), and over every
  completion order.  The `example`s that exhibit, for each theorem, a concrete reachable state
  satisfying its hypotheses are collected at the end.  CORE LEAN ONLY.

  Executor flavours: `(waitAll, cancelQueued)` = concurrent.futures thread/process pool,
  `(killAll, nothing)` = multiprocessing.Pool, `(killOnError, terminatePool)` = pathos (with the
  handler `except BaseException: terminate(executor, q)`), `(leaveRunning, terminatePool)` = pathos
  without that handler (it exhibits defect F16, `lpm_leaveRunning_counterexample`).
-/
import LazyDs.Lemmas.LpmInv

namespace LazyDs.Lpm

variable {α β ε : Type} {w b : Nat} {ek : ExitKind} {tk : TermKind} {f : α → Except ε β}
  {src₀ : List α} {ending : Option ε} {s s' : St α β ε}

/-! ## C04  transparent: same results, same order, each once -/

/-- C04. In every reachable state the delivered values are `f` applied to a prefix of the source,
    in source order, without loss or duplication (and every one of them is an `.ok`). -/
theorem lpm_delivered_prefix (h : Reachable w b ek tk f src₀ ending s) :
    ∃ k, k = s.delivered.length ∧ (src₀.take k).map f = s.delivered.map Except.ok :=
  ⟨_, rfl, (inv_reachable h).deliv⟩

/-- C04. Normal exhaustion (`done none false`) delivers exactly `map f src₀`.
    (`ending = none` is implied by `s.c = .done none false`: the proof does not use `_hend`.) -/
theorem lpm_complete (h : Reachable w b ek tk f src₀ ending s) (hc : s.c = .done none false)
    (_hend : ending = none) : src₀.map f = s.delivered.map Except.ok :=
  have hI := inv_reachable h
  hI.deliv_all ((hI.done hc).1.result rfl).1

/-- C04 (once). What one step of any thread does to future `i`: a cancelled future is never started, a
    finished one never run again, a running one never becomes pending again; it is killed only by the
    consumer, under `killAll` (multiprocessing `__exit__`), `killOnError` (pathos `terminate()` on an
    exception) or `terminatePool` (pathos `terminate()` on close).  The only transition into `.running` is
    `start` from `.pending`, and it is counted in `started`: so every future is started at most once. -/
theorem lpm_once {t : Tid} {i : Nat} {x : α} (h : step s t = some s') :
    (s.futs[i]? = some (x, .cancelled) → s'.futs[i]? = some (x, .cancelled)) ∧
    (∀ r, s.futs[i]? = some (x, .done r) → s'.futs[i]? = some (x, .done r)) ∧
    (s.futs[i]? = some (x, .running) →
      s'.futs[i]? = some (x, .running) ∨
      (t = .finish i ∧ s'.futs[i]? = some (x, .done (s.f x))) ∨
      (t = .consumer ∧ (s.exitKind = .killAll ∨ s.exitKind = .killOnError ∨ s.termKind = .terminatePool) ∧
        s'.futs[i]? = some (x, .cancelled))) ∧
    (s'.futs[i]? = some (x, .running) →
      s.futs[i]? = some (x, .running) ∨
      (t = .start ∧ s.futs[i]? = some (x, .pending) ∧ s'.started = s.started + 1)) := by
  have hn := Next.of_step h
  refine ⟨fun hi => idle_step h hi rfl, fun _ hi => idle_step h hi rfl, fun hi => ?_, fun hi => ?_⟩
  · obtain ⟨st', h1, htr⟩ := futs_next hn hi
    cases htr with
    | same => exact .inl h1
    | finish => exact .inr (.inl ⟨rfl, h1⟩)
    | kill _ hk => exact .inr (.inr ⟨rfl, hk, h1⟩)
  · cases hold : s.futs[i]? with
    | none => exact nomatch fresh_pending hn i x _ hi hold
    | some p =>
      obtain ⟨y, st⟩ := p
      obtain ⟨st', h1, htr⟩ := futs_next hn hold
      rw [h1] at hi
      injection hi with hi; injection hi with hy hst; subst hy; subst hst
      cases htr with
      | same => exact .inl rfl
      | start => cases hn; exact .inr ⟨rfl, rfl, rfl⟩

/-! ## C06  errors at the right position -/

/-- C06. An error exit (`done (some e) false`, no `close` involved), whatever the source does:
    the delivered results are `f` of the first `k` source items, all `.ok` (so `k` items is the
    longest all-ok prefix that was submitted), and
    * either item `k` is the FIRST failing item and `e` is exactly its exception,
    * or no item fails at all: the source itself raised `e` after its last item
      (`ending = some e`), and EVERY item of the source was delivered before `e` came out
      (nothing that was queued when the source raised is dropped: absence of defect F17). -/
theorem lpm_error_position {e : ε} (h : Reachable w b ek tk f src₀ ending s)
    (hc : s.c = .done (some e) false) :
    ∃ k, k = s.delivered.length ∧ (src₀.take k).map f = s.delivered.map Except.ok ∧
      (src₀[k]?.map f = some (.error e) ∨
       (ending = some e ∧ k = src₀.length ∧ s.pulled = src₀.length ∧
        src₀.map f = s.delivered.map Except.ok ∧
        s.delivered = src₀.filterMap (fun x => (f x).toOption))) := by
  have hI := inv_reachable h
  have hph := hI.done hc
  refine ⟨_, rfl, hI.deliv, ?_⟩
  rcases hph.1.result rfl with ⟨he, hsrc, hlen⟩ | he
  · have hall := hI.deliv_all hlen
    have := hI.srcLen
    exact .inr ⟨he, hlen, by simpa [hsrc] using this, hall, List.eq_filterMap_of_map_ok hall⟩
  · exact .inl he

/-- C06 for a source that does not raise: every result before the first failing item is delivered
    (all `.ok`), and the exception that comes out is exactly that item's exception. -/
theorem lpm_error_position_total_source {e : ε} (h : Reachable w b ek tk f src₀ ending s)
    (hc : s.c = .done (some e) false) (hend : ending = none) :
    ∃ k, k = s.delivered.length ∧ (src₀.take k).map f = s.delivered.map Except.ok ∧
      src₀[k]?.map f = some (.error e) := by
  obtain ⟨k, hk, hd, he | ⟨he, _⟩⟩ := lpm_error_position h hc
  · exact ⟨k, hk, hd, he⟩
  · rw [hend] at he; cases he

/-- C06. If some source item fails, then — whether or not the source itself raises afterwards — the
    exception that comes out is the one of the FIRST failing item, after exactly the results of
    the items before it. -/
theorem lpm_error_first_failure {e : ε} (h : Reachable w b ek tk f src₀ ending s)
    (hc : s.c = .done (some e) false) (hfail : ∃ x ∈ src₀, ∃ e', f x = .error e') :
    ∃ k, k = s.delivered.length ∧ (src₀.take k).map f = s.delivered.map Except.ok ∧
      src₀[k]?.map f = some (.error e) := by
  obtain ⟨k, hk, hd, he | ⟨_, _, _, hall, _⟩⟩ := lpm_error_position h hc
  · exact ⟨k, hk, hd, he⟩
  · obtain ⟨x, hx, e', hfx⟩ := hfail
    have : f x ∈ s.delivered.map Except.ok := hall ▸ List.mem_map_of_mem hx
    rw [hfx] at this
    simp at this

/-- C06 (absence of defect F17). When no item fails and the generator nevertheless ends with the exception
    `e`, then `e` is the source's exception and ALL results were delivered before it, in order:
    the results that were queued when the source raised are drained, not dropped. -/
theorem lpm_source_error_delivers_all {e : ε} (h : Reachable w b ek tk f src₀ ending s)
    (hc : s.c = .done (some e) false) (hok : ∀ x ∈ src₀, ∃ v, f x = .ok v) :
    ending = some e ∧ s.delivered = src₀.filterMap (fun x => (f x).toOption) ∧
      src₀.map f = s.delivered.map Except.ok ∧ s.delivered.length = src₀.length := by
  obtain ⟨k, hk, _, he | ⟨he, hlen, _, hall, hfm⟩⟩ := lpm_error_position h hc
  · exfalso
    cases hx : src₀[k]? with
    | none => simp [hx] at he
    | some x =>
      obtain ⟨v, hv⟩ := hok x (List.mem_of_getElem? hx)
      simp [hx, hv] at he
  · exact ⟨he, hfm, hall, by omega⟩

/-- C06 (absence of defect F17), with the source's exception named: when the source raises `e'` after its
    last item, an error exit either reports the first failing item (exactly as without a source
    error), or it reports `e'` — and then every item of the source was delivered before. -/
theorem lpm_source_error_position {e e' : ε} (h : Reachable w b ek tk f src₀ ending s)
    (hc : s.c = .done (some e) false) (hend : ending = some e') :
    ∃ k, k = s.delivered.length ∧ (src₀.take k).map f = s.delivered.map Except.ok ∧
      ((e = e' ∧ k = src₀.length ∧ s.delivered = src₀.filterMap (fun x => (f x).toOption)) ∨
       src₀[k]?.map f = some (.error e)) := by
  obtain ⟨k, hk, hd, he | ⟨he, hlen, _, _, hfm⟩⟩ := lpm_error_position h hc
  · exact ⟨k, hk, hd, .inr he⟩
  · rw [hend] at he; injection he with he
    exact ⟨k, hk, hd, .inl ⟨he.symm, hlen, hfm⟩⟩

/-- C06, non-vacuity of `lpm_source_error_delivers_all` (a schedule on which defect F17 drops two
    results). `w = 1, b = 2`, source `[1, 2, 3]` then raises `7`, `f = .ok`.
    In `s₀` the source has just raised: one result is delivered, futures 1 and 2 are finished and
    still queued.  The generator then drains the queue (two `yield`s, each resumed), re-raises `7`
    and leaves the executor: in `s` all three results were delivered before the error. -/
theorem lpm_source_error_example :
    ∃ s₀ s : St Nat Nat Nat,
      Reachable 1 2 .waitAll .cancelQueued (fun x => .ok x) [1, 2, 3] (some 7) s₀ ∧
      s₀.c = .drainErr 7 ∧ s₀.delivered = [1] ∧ s₀.q = [1, 2] ∧
      s₀.futs = [(1, .done (.ok 1)), (2, .done (.ok 2)), (3, .done (.ok 3))] ∧
      run s₀ [.consumer, .resume, .consumer, .resume, .consumer, .consumer] = some s ∧
      Reachable 1 2 .waitAll .cancelQueued (fun x => .ok x) [1, 2, 3] (some 7) s ∧
      s.c = .done (some 7) false ∧ s.delivered = [1, 2, 3] ∧ s.q = [] ∧
      s.futs = [(1, .done (.ok 1)), (2, .done (.ok 2)), (3, .done (.ok 3))] :=
  ⟨_, _, .of_run [.consumer, .consumer, .consumer, .consumer, .consumer, .start, .finish 0, .consumer,
                  .resume, .consumer, .start, .finish 1, .start, .finish 2, .consumer] rfl,
   rfl, rfl, rfl, rfl, rfl,
   .of_run [.consumer, .consumer, .consumer, .consumer, .consumer, .start, .finish 0, .consumer,
            .resume, .consumer, .start, .finish 1, .start, .finish 2, .consumer,
            .consumer, .resume, .consumer, .resume, .consumer, .consumer] rfl,
   rfl, rfl, rfl, rfl⟩

/-! ## C05  clean stop -/

/-- C05. No deadlock: unless the generator is suspended at a `yield` (`.yielded`: main loop and
    normal drain; `.yieldedErr`: the drain after a source error) or has finished, some thread
    of the system (consumer, pool start, some pool finish) can move.  (`w ≤ b` is only used
    through `1 ≤ b`.) -/
theorem lpm_no_deadlock (hw : 1 ≤ w) (hwb : w ≤ b) (h : Reachable w b ek tk f src₀ ending s)
    (hnd : isDone s = false) (hny : ∀ x, s.c ≠ .yielded x) (hnye : ∀ e, s.c ≠ .yieldedErr e) :
    (∃ s', step s .consumer = some s') ∨ (∃ s', step s .start = some s') ∨
      (∃ i s', step s (.finish i) = some s') :=
  (inv_reachable h).can_move hw (by omega) hnd hny hnye

/-- C05. At a `yield` the environment can both resume and close the generator. -/
theorem lpm_yield_enabled {x : Option α} (hc : s.c = .yielded x) :
    (∃ s', step s .resume = some s') ∧ (∃ s', step s .close = some s') := by
  cases x <;> simp [step, hc]

/-- C05. The same at a `yield` of the error drain (the source raised, queued results are being
    delivered): the environment can both resume and close the generator. -/
theorem lpm_yieldErr_enabled {e : ε} (hc : s.c = .yieldedErr e) :
    (∃ s', step s .resume = some s') ∧ (∃ s', step s .close = some s') := by
  simp [step, hc]

/-- C05. Termination: the `Nat` measure `mu` strictly decreases on every step of every thread
    (consumer, resume, close, start, finish); no invariant and no fairness is needed. -/
theorem lpm_terminates {t : Tid} (h : step s t = some s') : mu s' < mu s :=
  mu_next (.of_step h)

/-- C05. Hence every executable schedule is finite: from the initial state at most
    `8 * |src₀| + 4` steps. -/
theorem lpm_schedule_bounded {sched : List Tid} (h : run (init w b ek tk f src₀ ending) sched = some s) :
    sched.length ≤ 8 * src₀.length + 4 := by
  have := run_length_le_mu h
  rw [mu_init] at this
  omega

/-- C05, most general form. Nothing is pending or running once control is back at the caller
    after every exit that is a `QuiescentExit`: any exit under `waitAll` / `killAll`, an exit with
    an exception under `killOnError`, and — whatever the flavour — normal exhaustion
    (`done none false`: every submitted future was popped and delivered) and `close` under
    `terminatePool`. -/
theorem lpm_quiescent_exit {r : Option ε} {cl : Bool} (h : Reachable w b ek tk f src₀ ending s)
    (hc : s.c = .done r cl) (hq : QuiescentExit ek tk r cl) : ∀ p ∈ s.futs, isActive p.2 = false := by
  exact mem_of_forall_idx (((inv_reachable h).done hc).2 hq)

/-- C05. For the `waitAll` and `killAll` flavours, and for `killOnError` (the repaired pathos)
    when `terminate` is `terminatePool`, nothing is pending or running once control is back at the
    caller (after normal end, error, or close).  The extra hypothesis for `killOnError` is needed:
    under `(killOnError, cancelQueued)` or `(killOnError, nothing)` a `close` leaves the running
    futures running (`lpm_killOnError_needs_terminatePool`). -/
theorem lpm_quiescent (h : Reachable w b ek tk f src₀ ending s) (hd : isDone s = true)
    (hk : s.exitKind ≠ .leaveRunning ∧ (s.exitKind = .killOnError → s.termKind = .terminatePool)) :
    ∀ p ∈ s.futs, isActive p.2 = false := by
  have hI := inv_reachable h
  cases hc : s.c with
  | done r cl =>
    exact lpm_quiescent_exit h hc
      (quiescentExit_of_flavour (hI.hek ▸ hk.1) (fun he => hI.htk ▸ hk.2 (hI.hek.trans he)))
  | _ => simp [isDone, hc] at hd

/-- C05 for the repaired pathos flavour `(killOnError, terminatePool)`: after normal end, error,
    or close nothing is pending or running once control is back at the caller. -/
theorem lpm_quiescent_pathos_fixed (h : Reachable w b .killOnError .terminatePool f src₀ ending s)
    (hd : isDone s = true) : ∀ p ∈ s.futs, isActive p.2 = false := by
  have hI := inv_reachable h
  exact lpm_quiescent h hd ⟨by rw [hI.hek]; simp, fun _ => hI.htk⟩

/-- C05 (defect F16). `exitKind = leaveRunning` describes pathos without the handler
    `except BaseException: if backend == "mp": terminate(executor, q)`: after an ERROR exit (no
    `close` involved) control is back at the caller while future 1 is still running user code.
    With the handler the flavour is `(killOnError, terminatePool)`: see
    `lpm_quiescent_pathos_fixed` and, for the same schedule, `lpm_killOnError_error_example`. -/
theorem lpm_leaveRunning_counterexample :
    ∃ s : St Nat Nat Nat,
      Reachable 1 2 .leaveRunning .terminatePool (fun x => if x = 1 then .error 9 else .ok x)
        [1, 2, 3] none s ∧
      isDone s = true ∧ s.c = .done (some 9) false ∧ s.futs[1]? = some (2, .running) :=
  ⟨_, .of_run [.consumer, .consumer, .consumer, .consumer, .consumer, .start, .finish 0, .start,
               .consumer, .consumer] rfl, rfl, rfl, rfl⟩

/-- C05, non-vacuity of `lpm_quiescent_pathos_fixed` (absence of defect F16). The schedule of
    `lpm_leaveRunning_counterexample` under the repaired flavour `(killOnError, terminatePool)`:
    future 0 fails, future 1 is running when the error travels out (state `s₀`); the consumer's exit
    step then discards it, and in the done state it is cancelled and nothing is active. -/
theorem lpm_killOnError_error_example :
    ∃ s₀ s : St Nat Nat Nat,
      Reachable 1 2 .killOnError .terminatePool (fun x => if x = 1 then .error 9 else .ok x)
        [1, 2, 3] none s₀ ∧
      s₀.c = .exitWait (some 9) false ∧ s₀.futs[1]? = some (2, .running) ∧
      step s₀ .consumer = some s ∧
      Reachable 1 2 .killOnError .terminatePool (fun x => if x = 1 then .error 9 else .ok x)
        [1, 2, 3] none s ∧
      isDone s = true ∧ s.c = .done (some 9) false ∧ s.futs[1]? = some (2, .cancelled) ∧
      s.futs = [(1, .done (.error 9)), (2, .cancelled)] :=
  ⟨_, _, .of_run [.consumer, .consumer, .consumer, .consumer, .consumer, .start, .finish 0, .start,
                  .consumer] rfl, rfl, rfl, rfl,
   .of_run [.consumer, .consumer, .consumer, .consumer, .consumer, .start, .finish 0, .start,
            .consumer, .consumer] rfl, rfl, rfl, rfl, rfl⟩

/-- The extra hypothesis of `lpm_quiescent` for `killOnError` is needed: under
    `(killOnError, cancelQueued)` (not a real flavour) a `close` cancels the queued futures only
    and the no-exception exit does nothing, so future 1 is still running at the caller. -/
theorem lpm_killOnError_needs_terminatePool :
    ∃ s : St Nat Nat Nat,
      Reachable 1 2 .killOnError .cancelQueued (fun x => .ok x) [1, 2, 3] none s ∧
      isDone s = true ∧ s.c = .done none true ∧ s.futs[1]? = some (2, .running) :=
  ⟨_, .of_run [.consumer, .consumer, .consumer, .consumer, .consumer, .start, .finish 0, .consumer,
               .start, .close, .consumer, .consumer, .consumer] rfl, rfl, rfl, rfl⟩

/-- C05. After an early `close`, once control is back no future is left pending: for
    `cancelQueued` because every pending future is in `q` and the cancel loop empties `q`; for
    `terminatePool` because it discards everything; for `waitAll`/`killAll` because `__exit__`
    waits for / kills everything.  Covered: every combination except `(leaveRunning, nothing)`
    and `(killOnError, nothing)` (a close leaves without exception, so `killOnError` does nothing
    then), in particular the real flavours `(waitAll, cancelQueued)`, `(killAll, nothing)`,
    `(killOnError, terminatePool)` and the unrepaired pathos `(leaveRunning, terminatePool)`. -/
theorem lpm_close_terminates_pool {r : Option ε} (h : Reachable w b ek tk f src₀ ending s)
    (hc : s.c = .done r true)
    (hk : s.termKind ≠ .nothing ∨ (s.exitKind ≠ .leaveRunning ∧ s.exitKind ≠ .killOnError)) :
    ∀ p ∈ s.futs, isPending p.2 = false := by
  have hI := inv_reachable h
  have hph := hI.done hc
  rcases hk with hk | hk
  · exact mem_of_forall_idx ((hph.1.onClose rfl).1 (hI.htk ▸ hk))
  · exact mem_of_forall_idx (hph.2 (quiescentExit_of_flavour
      (hI.hek ▸ hk.1) (fun he => absurd (hI.hek.trans he) hk.2))).noPending

/-- The excluded combination `(leaveRunning, nothing)` (not a real flavour) really fails:
    after `close` future 1 stays pending. -/
theorem lpm_close_terminates_pool_counterexample :
    ∃ s : St Nat Nat Nat,
      Reachable 1 2 .leaveRunning .nothing (fun x => .ok x) [1, 2, 3] none s ∧
      s.c = .done none true ∧ s.futs[1]? = some (2, .pending) :=
  ⟨_, .of_run [.consumer, .consumer, .consumer, .consumer, .consumer, .start, .finish 0, .consumer,
               .close, .consumer, .consumer] rfl, rfl, rfl⟩

/-- The other excluded combination `(killOnError, nothing)` (not a real flavour) fails in the
    same way: the close travels out without exception, so nothing is terminated. -/
theorem lpm_close_terminates_pool_counterexample_killOnError :
    ∃ s : St Nat Nat Nat,
      Reachable 1 2 .killOnError .nothing (fun x => .ok x) [1, 2, 3] none s ∧
      s.c = .done none true ∧ s.futs[1]? = some (2, .pending) :=
  ⟨_, .of_run [.consumer, .consumer, .consumer, .consumer, .consumer, .start, .finish 0, .consumer,
               .close, .consumer, .consumer] rfl, rfl, rfl⟩

/-- C05. Once `futs[i]` is `cancelled` it stays `cancelled` in every later state (so it is never
    started).  Holds from any state, in particular from any reachable one. -/
theorem lpm_cancelled_never_runs {sched : List Tid} {i : Nat} {x : α} (h : run s sched = some s')
    (hi : s.futs[i]? = some (x, .cancelled)) : s'.futs[i]? = some (x, .cancelled) :=
  isSched.inv (fun _ _ _ hi hs => idle_step hs hi rfl) hi h

/-! ## C07  bounded read-ahead -/

/-- C07. The FIFO never holds more than `buffer` futures. -/
theorem lpm_queue_bound (h : Reachable w b ek tk f src₀ ending s) : s.q.length ≤ s.buffer := by
  have hI := inv_reachable h
  rw [hI.hb]; exact hI.qBound

/-- C07. At most `buffer + 1` source items are taken beyond what was delivered. -/
theorem lpm_pulled_bound (h : Reachable w b ek tk f src₀ ending s) :
    s.pulled ≤ s.delivered.length + s.buffer + 1 := by
  have hI := inv_reachable h
  have := hI.pulledLe; have := hI.bufInv; rw [hI.hb]; omega

/-- C07. At most `buffer` futures were ever started beyond what was delivered. -/
theorem lpm_started_bound (h : Reachable w b ek tk f src₀ ending s) :
    s.started ≤ s.delivered.length + s.buffer := by
  have hI := inv_reachable h
  have := hI.startedLe; have := hI.bufInv; rw [hI.hb]; omega

/-- C07 (pool contract, sanity of the model). Never more than `workers` futures run at a time. -/
theorem lpm_running_bound (h : Reachable w b ek tk f src₀ ending s) : numRunning s ≤ s.workers := by
  have hI := inv_reachable h
  rw [numRunning_eq, hI.hw]; exact hI.runLe

/-! ## Concrete reachable states satisfying the hypotheses (non-vacuity), `α = β = ε = Nat` -/

section Examples
open Tid

/-- `lpm_delivered_prefix`: suspended at the first `yield`, one result delivered. -/
example : ∃ s : St Nat Nat Nat,
    Reachable 1 1 .waitAll .cancelQueued (fun x => .ok (x + 10)) [1, 2] none s ∧
    s.c = .yielded (some 2) ∧ s.delivered = [11] :=
  ⟨_, .of_run [consumer, consumer, consumer, start, finish 0, consumer] rfl, rfl, rfl⟩

/-- `lpm_complete`, `lpm_quiescent` (`waitAll`): normal exhaustion. -/
example : ∃ s : St Nat Nat Nat,
    Reachable 1 1 .waitAll .cancelQueued (fun x => .ok (x + 10)) [1, 2] none s ∧
    s.c = .done none false ∧ isDone s = true ∧
    (s.exitKind ≠ .leaveRunning ∧ (s.exitKind = .killOnError → s.termKind = .terminatePool)) ∧
    s.delivered = [11, 12] :=
  ⟨_, .of_run [consumer, consumer, consumer, start, finish 0, consumer, resume, consumer, consumer,
               start, finish 1, consumer, resume, consumer, consumer] rfl, rfl, rfl, by decide, rfl⟩

/-- `lpm_once` (first conjunct), `lpm_cancelled_never_runs`: after `close` the cancel loop has
    cancelled the pending future 1, and the consumer can step on. -/
example : ∃ s s' : St Nat Nat Nat,
    Reachable 1 2 .waitAll .cancelQueued (fun x => .ok x) [1, 2, 3] none s ∧
    step s .consumer = some s' ∧ s.futs[1]? = some (2, .cancelled) :=
  ⟨_, _, .of_run [consumer, consumer, consumer, consumer, consumer, start, finish 0, consumer,
                  close, consumer] rfl, rfl, rfl⟩

/-- `lpm_once` (the other three conjuncts): future 0 running, `finish 0` enabled. -/
example : ∃ s s' : St Nat Nat Nat,
    Reachable 1 1 .waitAll .cancelQueued (fun x => .ok x) [1, 2] none s ∧
    s.futs[0]? = some (1, .running) ∧ step s (.finish 0) = some s' ∧
    s'.futs[0]? = some (1, .done (.ok 1)) :=
  ⟨_, _, .of_run [consumer, consumer, consumer, start] rfl, rfl, rfl, rfl⟩

/-- `lpm_error_position`: `f 2` fails; `[f 1]` is delivered, then exactly `f 2`'s exception. -/
example : ∃ s : St Nat Nat Nat,
    Reachable 1 1 .waitAll .cancelQueued (fun x => if x = 2 then .error 9 else .ok x) [1, 2, 3] none s ∧
    s.c = .done (some 9) false ∧ s.delivered = [1] :=
  ⟨_, .of_run [consumer, consumer, consumer, start, finish 0, consumer, resume, consumer, consumer,
               start, finish 1, consumer, consumer] rfl, rfl, rfl⟩

/-- `lpm_error_position`, `lpm_source_error_delivers_all`, `lpm_source_error_position`: the source
    `[1, 2]` raises `7` while both results are queued; both are delivered, then `7` comes out. -/
example : ∃ s : St Nat Nat Nat,
    Reachable 1 2 .waitAll .cancelQueued (fun x => .ok x) [1, 2] (some 7) s ∧
    s.c = .done (some 7) false ∧ s.src = [] ∧ s.pulled = 2 ∧ s.delivered = [1, 2] :=
  ⟨_, .of_run [consumer, consumer, consumer, consumer, start, finish 0, start, finish 1,
               consumer, consumer, resume, consumer, resume, consumer, consumer] rfl, rfl, rfl, rfl, rfl⟩

/-- `lpm_error_first_failure`, `lpm_source_error_position`: the source `[1, 2]` raises `7`, but the
    queued result of item 2 fails with `9`: `[f 1]` is delivered, then `9` (not `7`) comes out —
    exactly as in the normal drain loop. -/
example : ∃ s : St Nat Nat Nat,
    Reachable 1 2 .waitAll .cancelQueued (fun x => if x = 2 then .error 9 else .ok x) [1, 2] (some 7) s ∧
    s.c = .done (some 9) false ∧ s.delivered = [1] :=
  ⟨_, .of_run [consumer, consumer, consumer, consumer, start, finish 0, start, finish 1,
               consumer, consumer, resume, consumer, consumer] rfl, rfl, rfl⟩

/-- `lpm_yieldErr_enabled`, `lpm_close_terminates_pool`: a `close()` at a `yield` of the error drain
    cancels as usual (future 1 was still pending and queued: it is cancelled; no exception). -/
example : ∃ s₀ s : St Nat Nat Nat,
    Reachable 1 2 .waitAll .cancelQueued (fun x => .ok x) [1, 2] (some 7) s₀ ∧
    s₀.c = .yieldedErr 7 ∧ s₀.delivered = [1] ∧
    run s₀ [close, consumer, consumer, consumer] = some s ∧
    s.c = .done none true ∧ s.futs = [(1, .done (.ok 1)), (2, .cancelled)] :=
  ⟨_, _, .of_run [consumer, consumer, consumer, consumer, start, finish 0, consumer, consumer] rfl,
   rfl, rfl, rfl, rfl, rfl⟩

/-- `lpm_no_deadlock`: the consumer waits for the head of `q` (it cannot move), the pool can. -/
example : ∃ s s' : St Nat Nat Nat,
    Reachable 1 1 .waitAll .cancelQueued (fun x => .ok x) [1, 2] none s ∧
    isDone s = false ∧ s.c = .waitHead 2 ∧ step s .consumer = none ∧ step s .start = some s' :=
  ⟨_, _, .of_run [consumer, consumer, consumer] rfl, rfl, rfl, rfl, rfl⟩

/-- `lpm_yield_enabled`: at the first `yield`. -/
example : ∃ s s₁ s₂ : St Nat Nat Nat,
    Reachable 1 1 .waitAll .cancelQueued (fun x => .ok x) [1, 2] none s ∧
    s.c = .yielded (some 2) ∧ step s .resume = some s₁ ∧ step s .close = some s₂ :=
  ⟨_, _, _, .of_run [consumer, consumer, consumer, start, finish 0, consumer] rfl, rfl, rfl, rfl⟩

/-- `lpm_terminates`, `lpm_schedule_bounded`: `mu` of the initial state is `8·2+4`; after three
    consumer steps and a `start` it is 15; a complete run of 15 steps ends with `mu = 0`. -/
example : mu (init 1 1 .waitAll .cancelQueued (fun x : Nat => (.ok x : Except Nat Nat)) [1, 2] none) = 20 ∧
    (run (init 1 1 .waitAll .cancelQueued (fun x : Nat => (.ok x : Except Nat Nat)) [1, 2] none)
      [consumer, consumer, consumer, start]).map mu = some 15 ∧
    (run (init 1 1 .waitAll .cancelQueued (fun x : Nat => (.ok x : Except Nat Nat)) [1, 2] none)
      [consumer, consumer, consumer, start, finish 0, consumer, resume, consumer, consumer,
       start, finish 1, consumer, resume, consumer, consumer]).map mu = some 0 :=
  ⟨by decide, by decide, by decide⟩

/-- `lpm_close_terminates_pool`, `lpm_quiescent`: concurrent.futures flavour after `close`;
    the queued future 1 was cancelled, nothing is active. -/
example : ∃ s : St Nat Nat Nat,
    Reachable 1 2 .waitAll .cancelQueued (fun x => .ok x) [1, 2, 3] none s ∧
    s.c = .done none true ∧ s.futs = [(1, .done (.ok 1)), (2, .cancelled)] :=
  ⟨_, .of_run [consumer, consumer, consumer, consumer, consumer, start, finish 0, consumer,
               close, consumer, consumer, consumer] rfl, rfl, rfl⟩

/-- `lpm_close_terminates_pool`, `lpm_quiescent`: multiprocessing flavour `(killAll, nothing)`. -/
example : ∃ s : St Nat Nat Nat,
    Reachable 1 2 .killAll .nothing (fun x => .ok x) [1, 2, 3] none s ∧
    s.c = .done none true ∧ s.exitKind = .killAll ∧ s.futs = [(1, .done (.ok 1)), (2, .cancelled)] :=
  ⟨_, .of_run [consumer, consumer, consumer, consumer, consumer, start, finish 0, consumer,
               close, consumer, consumer] rfl, rfl, rfl, rfl⟩

/-- `lpm_close_terminates_pool`: pathos flavour `(leaveRunning, terminatePool)`; future 1 was
    running when `terminate()` discarded it. -/
example : ∃ s : St Nat Nat Nat,
    Reachable 1 2 .leaveRunning .terminatePool (fun x => .ok x) [1, 2, 3] none s ∧
    s.c = .done none true ∧ s.termKind ≠ .nothing ∧ s.started = 2 ∧
    s.futs = [(1, .done (.ok 1)), (2, .cancelled)] :=
  ⟨_, .of_run [consumer, consumer, consumer, consumer, consumer, start, finish 0, consumer, start,
               close, consumer, consumer] rfl, rfl, by decide, rfl, rfl⟩

/-- `lpm_quiescent_pathos_fixed`, `lpm_close_terminates_pool`: repaired pathos flavour
    `(killOnError, terminatePool)` after `close`; future 1 was running when `terminate()`
    discarded it. -/
example : ∃ s : St Nat Nat Nat,
    Reachable 1 2 .killOnError .terminatePool (fun x => .ok x) [1, 2, 3] none s ∧
    s.c = .done none true ∧ isDone s = true ∧ s.started = 2 ∧
    s.futs = [(1, .done (.ok 1)), (2, .cancelled)] :=
  ⟨_, .of_run [consumer, consumer, consumer, consumer, consumer, start, finish 0, consumer, start,
               close, consumer, consumer] rfl, rfl, rfl, rfl, rfl⟩

/-- `lpm_quiescent_pathos_fixed`, `lpm_complete`: repaired pathos flavour, normal exhaustion (the
    exit step does nothing, yet nothing is active: everything submitted was delivered). -/
example : ∃ s : St Nat Nat Nat,
    Reachable 1 1 .killOnError .terminatePool (fun x => .ok (x + 10)) [1, 2] none s ∧
    s.c = .done none false ∧ isDone s = true ∧ s.delivered = [11, 12] ∧
    s.futs = [(1, .done (.ok 11)), (2, .done (.ok 12))] :=
  ⟨_, .of_run [consumer, consumer, consumer, start, finish 0, consumer, resume, consumer, consumer,
               start, finish 1, consumer, resume, consumer, consumer] rfl, rfl, rfl, rfl, rfl⟩

/-- `lpm_queue_bound`, `lpm_pulled_bound`, `lpm_started_bound`, `lpm_running_bound`: all four
    bounds are attained (`|q| = b = 1`, `pulled = 0 + b + 1`, `started = 0 + b`, one worker busy). -/
example : ∃ s : St Nat Nat Nat,
    Reachable 1 1 .waitAll .cancelQueued (fun x => .ok x) [1, 2] none s ∧
    s.q.length = s.buffer ∧ s.pulled = s.delivered.length + s.buffer + 1 ∧
    s.started = s.delivered.length + s.buffer ∧ numRunning s = s.workers :=
  ⟨_, .of_run [consumer, consumer, consumer, start] rfl, rfl, rfl, rfl, rfl⟩

end Examples

end LazyDs.Lpm
