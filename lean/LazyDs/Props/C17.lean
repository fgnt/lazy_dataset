/-
  Property C17: `DynamicBucketDataset.__iter__` (model: `LazyDs.Model.Bucket`).
  Only final statements; all the work is in `LazyDs.Lemmas.BucketInv`.

  "Every state reached by `runAux` from `init`" is stated as "`(runAux ops p init input).2` for every
  `input`": the states between two passes of a run on `input` are the final states on the prefixes of
  `input` (`runAux_append`), and `reachable_iff` identifies them with the inductively defined
  reachable states.  `(runAux ops p init input).2` with `input = pre ++ [e]` is the state after the
  pass with index `pre.length`.

  The time-series theorems (batch size, padding, total size) are about `tsOps`, the bucket in exact
  arithmetic; the driver compares the Python with `tsOpsF`, the same bucket in IEEE doubles, of which
  nothing is proved.

  The theorems come with `example`s on the time-series bucket with the seven examples of lengths
  `[1,10,5,7,8,2,4]`.
-/
import LazyDs.Lemmas.BucketInv

namespace LazyDs

open Bucket

/-! ### the concrete data used by the examples -/
namespace C17Example

/-- lengths `[1,10,5,7,8,2,4]`, ids `0..6` -/
def input : List Ex := [⟨0, 1⟩, ⟨1, 10⟩, ⟨2, 5⟩, ⟨3, 7⟩, ⟨4, 8⟩, ⟨5, 2⟩, ⟨6, 4⟩]
/-- `batch_size = 2`, `max_padding_rate = 1/2`, no `max_total_size` -/
def tp : TSParams := ⟨2, 1, 2, none⟩
/-- `batch_size = 3`, `max_padding_rate = 1/2`, `max_total_size = 16` -/
def tpT : TSParams := ⟨3, 1, 2, some 16⟩
/-- `expiration = 2`, `drop_incomplete` -/
def pExp : Params := ⟨some 2, none, true⟩
/-- `expiration = 3`, `max_buffered_examples = 3`, `drop_incomplete` -/
def pAll : Params := ⟨some 3, some 3, true⟩
/-- no expiry, no buffer bound, incomplete buckets are emitted -/
def pKeep : Params := ⟨none, none, false⟩

end C17Example

open C17Example

variable {β : Type} {ops : BucketOps β}

/-! ### 1. the counter -/

/-- C17 (counter): in every reached state `buffered_count` is the number of examples withheld in the
    open buckets. -/
theorem C17_count_inv (law : Lawful ops) (p : Params) (input : List Ex) :
    (runAux ops p init input).2.buffered =
      ((runAux ops p init input).2.buckets.map (fun bc => (ops.data bc.1).length)).sum :=
  (inv_reached law (closed_nonempty law) p input).1.count

example :
    (runAux (tsOps tpT) pKeep init (input.take 6)).2.buffered =
      ((runAux (tsOps tpT) pKeep init (input.take 6)).2.buckets.map
        (fun bc => ((tsOps tpT).data bc.1).length)).sum :=
  C17_count_inv (ts_lawful _) _ _

example :
    (runAux (tsOps tpT) pKeep init (input.take 6)).2.buffered = 3 ∧
    (runAux (tsOps tpT) pKeep init (input.take 6)).2.buckets.map (fun bc => (bc.1.data, bc.2)) =
      [([⟨0, 1⟩, ⟨5, 2⟩], 0), ([⟨4, 8⟩], 4)] := by decide +kernel

/-- C17 (counter, consequence): in every reached state every open bucket is non-empty. -/
theorem C17_open_nonempty (law : Lawful ops) (p : Params) (input : List Ex) :
    ∀ bc ∈ (runAux ops p init input).2.buckets, ops.data bc.1 ≠ [] :=
  fun bc hbc => ((inv_reached law (closed_nonempty law) p input).1.good bc hbc).1

example : ∀ bc ∈ (runAux (tsOps tpT) pKeep init (input.take 6)).2.buckets,
    (tsOps tpT).data bc.1 ≠ [] :=
  C17_open_nonempty (ts_lawful _) _ _

/-- C17 (counter, consequence): in every reached state no open bucket is completed, i.e. a bucket is
    emitted in the very pass in which it becomes completed. -/
theorem C17_open_not_completed (law : Lawful ops) (p : Params) (input : List Ex) :
    ∀ bc ∈ (runAux ops p init input).2.buckets, ops.completed bc.1 = false :=
  fun bc hbc => ((inv_reached law (closed_nonempty law) p input).1.good bc hbc).2

example : ∀ bc ∈ (runAux (tsOps tpT) pKeep init (input.take 6)).2.buckets,
    (tsOps tpT).completed bc.1 = false :=
  C17_open_not_completed (ts_lawful _) _ _

/-! ### 2. conservation -/

/-- C17 (conservation): the emitted and the dropped batches together are a permutation of the input:
    every input example is handed out in exactly one batch, nothing is invented. -/
theorem C17_conservation (law : Lawful ops) (p : Params) (input : List Ex) :
    ((allEmitted (run ops p input)).flatten ++ (allDropped (run ops p input)).flatten).Perm input := by
  rw [List.perm_iff_count]
  intro a
  have := (run_spec law (closed_nonempty law) p input).2 a
  simpa [outsCount] using this

example :
    ((allEmitted (run (tsOps tpT) pAll input)).flatten ++
      (allDropped (run (tsOps tpT) pAll input)).flatten).Perm input :=
  C17_conservation (ts_lawful _) _ _

example :
    allEmitted (run (tsOps tpT) pAll input) =
      [[⟨1, 10⟩], [⟨2, 5⟩, ⟨3, 7⟩], [⟨4, 8⟩, ⟨6, 4⟩]] ∧
    allDropped (run (tsOps tpT) pAll input) = [[⟨0, 1⟩], [⟨5, 2⟩]] := by decide +kernel

/-- C17 (conservation without `drop_incomplete`): nothing is dropped and every input example is
    emitted in exactly one batch. -/
theorem C17_conservation_nodrop (law : Lawful ops) (p : Params) (input : List Ex)
    (hd : p.dropIncomplete = false) :
    (allEmitted (run ops p input)).flatten.Perm input ∧ allDropped (run ops p input) = [] := by
  have hnil : allDropped (run ops p input) = [] := by
    apply List.eq_nil_iff_forall_not_mem.2
    intro b hb
    obtain ⟨_, _, h, _⟩ := run_dropped law (closed_nonempty law) p input b hb
    simp [hd] at h
  refine ⟨?_, hnil⟩
  have := C17_conservation law p input
  simpa [hnil] using this

example :
    (allEmitted (run (tsOps tp) pKeep input)).flatten.Perm input ∧
      allDropped (run (tsOps tp) pKeep input) = [] :=
  C17_conservation_nodrop (ts_lawful _) _ _ rfl

example :
    allEmitted (run (tsOps tp) pKeep input) =
      [[⟨1, 10⟩, ⟨2, 5⟩], [⟨3, 7⟩, ⟨4, 8⟩], [⟨0, 1⟩, ⟨5, 2⟩], [⟨6, 4⟩]] := by decide +kernel

/-! ### 3. no empty batch -/

/-- C17 (non-empty): no emitted and no dropped batch is empty. -/
theorem C17_nonempty (law : Lawful ops) (p : Params) (input : List Ex) :
    (∀ b ∈ allEmitted (run ops p input), b ≠ []) ∧ (∀ b ∈ allDropped (run ops p input), b ≠ []) := by
  have key : ∀ b, b ∈ allEmitted (run ops p input) ∨ b ∈ allDropped (run ops p input) → b ≠ [] := by
    intro b hb
    obtain ⟨bk, hq, rfl⟩ := run_batches law (closed_nonempty law) p input b hb
    exact hq
  exact ⟨fun b hb => key b (.inl hb), fun b hb => key b (.inr hb)⟩

example :
    (∀ b ∈ allEmitted (run (tsOps tpT) pAll input), b ≠ []) ∧
      (∀ b ∈ allDropped (run (tsOps tpT) pAll input), b ≠ []) :=
  C17_nonempty (ts_lawful _) _ _

/-! ### 4. batch size -/

/-- C17 (batch size, any bucket class): if a bucket holding `n ≥ 1` examples is always completed, no
    emitted and no dropped batch has more than `n` examples. -/
theorem C17_batch_size_generic (law : Lawful ops) (n : Nat) (hn : 1 ≤ n)
    (hcomp : ∀ b, (ops.data b).length ≥ n → ops.completed b = true) (p : Params) (input : List Ex) :
    (∀ b ∈ allEmitted (run ops p input), b.length ≤ n) ∧
      (∀ b ∈ allDropped (run ops p input), b.length ≤ n) := by
  have key : ∀ b, b ∈ allEmitted (run ops p input) ∨ b ∈ allDropped (run ops p input) →
      b.length ≤ n := by
    intro b hb
    obtain ⟨bk, hq, rfl⟩ := run_batches law (closed_size law n hn hcomp) p input b hb
    exact hq
  exact ⟨fun b hb => key b (.inl hb), fun b hb => key b (.inr hb)⟩

/-- C17 (batch size): with the time-series bucket and `batch_size ≥ 1` no emitted and no dropped
    batch has more than `batch_size` examples. -/
theorem C17_batch_size (tp : TSParams) (hbs : 1 ≤ tp.batchSize) (p : Params) (input : List Ex) :
    (∀ b ∈ allEmitted (run (tsOps tp) p input), b.length ≤ tp.batchSize) ∧
      (∀ b ∈ allDropped (run (tsOps tp) p input), b.length ≤ tp.batchSize) :=
  C17_batch_size_generic (ts_lawful tp) tp.batchSize hbs (ts_completed_of_length tp) p input

example :
    (∀ b ∈ allEmitted (run (tsOps tpT) pAll input), b.length ≤ 3) ∧
      (∀ b ∈ allDropped (run (tsOps tpT) pAll input), b.length ≤ 3) :=
  C17_batch_size tpT (by decide) _ _

/-! ### 5. expiration -/

/-- C17 (expiration): in every reached state, `s.i = input.length` passes done, no open bucket has
    seen `ex` examples after the one that created it (`s.i ≤ c + ex` for its creation index `c`); the
    open buckets stand in the order of their creation. -/
theorem C17_expiration (law : Lawful ops) (p : Params) (ex : Nat) (hex : p.expiration = some ex)
    (input : List Ex) :
    (runAux ops p init input).2.i = input.length ∧
    (runAux ops p init input).2.buckets.Pairwise (fun a b => a.2 < b.2) ∧
    ∀ bc ∈ (runAux ops p init input).2.buckets,
      bc.2 < (runAux ops p init input).2.i ∧ (runAux ops p init input).2.i ≤ bc.2 + ex := by
  obtain ⟨inv, hi⟩ := inv_reached law (closed_nonempty law) p input
  exact ⟨hi, inv.idx_sorted, fun bc hbc => ⟨inv.idx_lt bc hbc, inv.age ex hex bc hbc⟩⟩

example :
    (runAux (tsOps tpT) pAll init (input.take 3)).2.i = (input.take 3).length ∧
    (runAux (tsOps tpT) pAll init (input.take 3)).2.buckets.Pairwise (fun a b => a.2 < b.2) ∧
    ∀ bc ∈ (runAux (tsOps tpT) pAll init (input.take 3)).2.buckets,
      bc.2 < (runAux (tsOps tpT) pAll init (input.take 3)).2.i ∧
        (runAux (tsOps tpT) pAll init (input.take 3)).2.i ≤ bc.2 + 3 :=
  C17_expiration (ts_lawful _) _ 3 rfl _

example :
    (runAux (tsOps tpT) pAll init (input.take 3)).2.buckets.map (fun bc => (bc.1.data, bc.2)) =
      [([⟨0, 1⟩], 0), ([⟨2, 5⟩], 2)] ∧
    (runAux (tsOps tpT) pAll init (input.take 4)).2.buckets = [] := by decide +kernel

/-- C17 (expiration, as an age): after the pass with index `i = pre.length` every open bucket with
    creation index `c` has age `i - c < ex`. -/
theorem C17_expiration_age (law : Lawful ops) (p : Params) (ex : Nat) (hex : p.expiration = some ex)
    (pre : List Ex) (e : Ex) :
    ∀ bc ∈ (runAux ops p init (pre ++ [e])).2.buckets, pre.length - bc.2 < ex := by
  intro bc hbc
  obtain ⟨hi, -, h⟩ := C17_expiration law p ex hex (pre ++ [e])
  have := h bc hbc
  simp at hi
  omega

example : ∀ bc ∈ (runAux (tsOps tp) pExp init (input.take 2 ++ [⟨2, 5⟩])).2.buckets,
    (input.take 2).length - bc.2 < 2 :=
  C17_expiration_age (ts_lawful _) _ 2 rfl _ _

/-! ### 6. buffer bound -/

/-- C17 (buffer bound): in every reached state, i.e. whenever the next source example is requested,
    at most `max_buffered_examples` consumed examples are withheld. -/
theorem C17_buffer_bound (law : Lawful ops) (p : Params) (m : Nat) (hm : p.maxBuffered = some m)
    (input : List Ex) : (runAux ops p init input).2.buffered ≤ m :=
  (inv_reached law (closed_nonempty law) p input).1.bound m hm

example : (runAux (tsOps tpT) ⟨none, some 2, true⟩ init (input.take 6)).2.buffered ≤ 2 :=
  C17_buffer_bound (ts_lawful _) _ 2 rfl _

/-- the bound bites: without it three examples are withheld after six passes -/
example :
    (runAux (tsOps tpT) ⟨none, some 2, true⟩ init (input.take 6)).2.buffered = 1 ∧
    (runAux (tsOps tpT) ⟨none, none, true⟩ init (input.take 6)).2.buffered = 3 := by decide +kernel

/-! ### 7. `drop_incomplete` -/

/-- C17 (`drop_incomplete`): with `drop_incomplete` every emitted batch is the data of a completed
    bucket.  (Buckets given up by expiry, overflow or the final flush go to `dropped`; together with
    `C17_conservation` the emitted and dropped batches partition the input, and by `C17_no_drop`
    nothing is dropped without `drop_incomplete`.) -/
theorem C17_drop_exact (law : Lawful ops) (p : Params) (hd : p.dropIncomplete = true)
    (input : List Ex) :
    ∀ b ∈ allEmitted (run ops p input), ∃ bk, ops.completed bk = true ∧ ops.data bk = b := by
  intro b hb
  obtain ⟨bk, -, hc, rfl⟩ := run_emitted law (closed_nonempty law) p input b hb
  exact ⟨bk, hc hd, rfl⟩

example : ∀ b ∈ allEmitted (run (tsOps tpT) pAll input),
    ∃ bk, (tsOps tpT).completed bk = true ∧ (tsOps tpT).data bk = b :=
  C17_drop_exact (ts_lawful _) _ rfl _

/-- C17 (`drop_incomplete` off): nothing is dropped. -/
theorem C17_no_drop (law : Lawful ops) (p : Params) (hd : p.dropIncomplete = false)
    (input : List Ex) : allDropped (run ops p input) = [] :=
  (C17_conservation_nodrop law p input hd).2

example : allDropped (run (tsOps tpT) ⟨some 3, some 3, false⟩ input) = [] :=
  C17_no_drop (ts_lawful _) _ rfl _

/-! ### 8. padding rate -/

/-- C17 (padding, invariant): in every reached state the `maxLen` and `minLen` of an open
    time-series bucket bound its member lengths and are within the padding rate of each other. -/
theorem C17_padding_inv (tp : TSParams) (p : Params) (input : List Ex) :
    ∀ bc ∈ (runAux (tsOps tp) p init input).2.buckets,
      (∀ x ∈ bc.1.data, x.len ≤ bc.1.maxLen ∧ bc.1.minLen ≤ x.len) ∧
        bc.1.maxLen * (tp.den - tp.num) ≤ bc.1.minLen * tp.den :=
  fun bc hbc => ((inv_reached (ts_lawful tp) (ts_closed_pad tp) p input).1.good bc hbc).1

/-- C17 (padding): any two members `x`, `y` of an emitted or dropped batch of the time-series bucket
    satisfy `y.len * (den - num) ≤ x.len * den`, i.e. shortest ≥ (1 - rate) * longest.
    (`num < den`, i.e. `max_padding_rate < 1`, is not needed.) -/
theorem C17_padding (tp : TSParams) (p : Params) (input : List Ex) :
    ∀ b, b ∈ allEmitted (run (tsOps tp) p input) ∨ b ∈ allDropped (run (tsOps tp) p input) →
      ∀ x ∈ b, ∀ y ∈ b, y.len * (tp.den - tp.num) ≤ x.len * tp.den := by
  intro b hb
  obtain ⟨bk, hq, rfl⟩ := run_batches (ts_lawful tp) (ts_closed_pad tp) p input b hb
  intro x hx y hy
  exact Nat.le_trans (Nat.mul_le_mul_right _ (hq.1 y hy).1)
    (Nat.le_trans hq.2 (Nat.mul_le_mul_right _ (hq.1 x hx).2))

example : ∀ b, b ∈ allEmitted (run (tsOps tp) pExp input) ∨ b ∈ allDropped (run (tsOps tp) pExp input) →
    ∀ x ∈ b, ∀ y ∈ b, y.len * (2 - 1) ≤ x.len * 2 :=
  C17_padding tp _ _

example :
    allEmitted (run (tsOps tp) pExp input) = [[⟨1, 10⟩, ⟨2, 5⟩], [⟨3, 7⟩, ⟨4, 8⟩], [⟨5, 2⟩, ⟨6, 4⟩]] ∧
    allDropped (run (tsOps tp) pExp input) = [[⟨0, 1⟩]] := by decide +kernel

/-! ### 9. total size -/

/-- C17 (total size): with `max_total_size = m` every emitted or dropped batch of the time-series
    bucket with at least two examples has `length * (longest member) ≤ m`.  (A single example longer
    than `m` is handed out alone, hence `2 ≤ b.length`.) -/
theorem C17_total_size (tp : TSParams) (m : Nat) (hm : tp.maxTotal = some m) (p : Params)
    (input : List Ex) :
    ∀ b, b ∈ allEmitted (run (tsOps tp) p input) ∨ b ∈ allDropped (run (tsOps tp) p input) →
      2 ≤ b.length → ∀ x ∈ b, b.length * x.len ≤ m := by
  intro b hb
  obtain ⟨bk, hq, rfl⟩ :=
    run_batches (ts_lawful tp) ((ts_closed_pad tp).and (ts_closed_total tp m hm)) p input b hb
  intro h2 x hx
  exact Nat.le_trans (Nat.mul_le_mul_left _ (hq.1.1 x hx).1) (hq.2 h2)

example : ∀ b, b ∈ allEmitted (run (tsOps tpT) pKeep input) ∨ b ∈ allDropped (run (tsOps tpT) pKeep input) →
    2 ≤ b.length → ∀ x ∈ b, b.length * x.len ≤ 16 :=
  C17_total_size tpT 16 rfl _ _

example :
    allEmitted (run (tsOps tpT) pKeep input) =
      [[⟨1, 10⟩], [⟨2, 5⟩, ⟨3, 7⟩], [⟨4, 8⟩, ⟨6, 4⟩], [⟨0, 1⟩, ⟨5, 2⟩]] := by decide +kernel

/-! ### 10. sorting a batch -/

/-- C17 (`sort_key`): sorting a batch permutes it (same length, same members, so none of the clauses
    above is affected) and the result is ordered by the key, descending if `reverse_sort`. -/
theorem C17_sort_key (key : Ex → Nat) (rev : Bool) (data : List Ex) :
    (sortBatch key rev data).Perm data ∧
    (sortBatch key rev data).length = data.length ∧
    (∀ x, x ∈ sortBatch key rev data ↔ x ∈ data) ∧
    (sortBatch key rev data).Pairwise
      (fun a b => if rev = true then key a ≥ key b else key a ≤ key b) := by
  have hperm : (sortBatch key rev data).Perm data := by
    unfold sortBatch; split <;> exact List.mergeSort_perm _ _
  refine ⟨hperm, hperm.length_eq, fun x => hperm.mem_iff, ?_⟩
  unfold sortBatch
  cases rev
  · have := List.pairwise_mergeSort (le := fun a b => decide (key a ≤ key b))
      (fun a b c hab hbc => by simp at *; omega) (fun a b => by simp; omega) data
    simpa using this
  · have := List.pairwise_mergeSort (le := fun a b => decide (key a ≥ key b))
      (fun a b c hab hbc => by simp at *; omega) (fun a b => by simp; omega) data
    simpa using this

example :
    (sortBatch (·.len) true input).Perm input ∧
    (sortBatch (·.len) true input).length = input.length ∧
    (∀ x, x ∈ sortBatch (·.len) true input ↔ x ∈ input) ∧
    (sortBatch (·.len) true input).Pairwise (fun a b => if true = true then a.len ≥ b.len else a.len ≤ b.len) :=
  C17_sort_key _ _ _

example :
    sortBatch (·.len) true input = [⟨1, 10⟩, ⟨4, 8⟩, ⟨3, 7⟩, ⟨2, 5⟩, ⟨6, 4⟩, ⟨5, 2⟩, ⟨0, 1⟩] := by
  simp [sortBatch, input, List.mergeSort, List.MergeSort.Internal.splitInTwo]

end LazyDs
