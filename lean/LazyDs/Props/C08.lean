import LazyDs.Lemmas.TraceLemmas
/-
  C08 — evaluation is demand-driven: nothing runs early, nothing runs twice.

  All statements are about the chunked-trace semantics of `LazyDs/Model/Trace.lean`: `t.logAfter k`
  is the list of user-function calls that have been performed once the consumer holds `k` results,
  `t.fullLog` the calls of a complete iteration.  "The arguments stage `sid` was applied to" is
  written `(log.filter (·.stage == sid)).map (·.arg)`.  The freshness hypothesis
  `∀ c ∈ (cs.map (·.1)).flatten ++ tl, c.stage ≠ sid` says that the stage identifier `sid` is not used
  by a stage further up the pipeline (the harness numbers the stages of a pipeline apart).
  The statements also use `accepted`, `stages`, `uncaught`, `okVal`, `errOf` and `catchStop`, which are not part of
  the model: they are defined in the first section of `LazyDs/Lemmas/TraceLemmas.lean`.
-/
namespace LazyDs
open Trace

/-! ## 1. What has run after `k` results is a prefix of what runs at all -/

/-- consuming `k` results performs a prefix of the calls of the whole iteration -/
theorem C08_prefix (t : TStream) (k : Nat) : t.logAfter k <+: t.fullLog := by
  unfold TStream.logAfter TStream.fullLog
  conv => rhs; rw [← List.take_append_drop k t.chunks]
  simp only [List.map_append, List.flatten_append, List.append_assoc]
  exact List.prefix_append _ _

example : (iterT menuEnv (.map 7 (.add 1) (.src [.int 1, .int 2, .int 3]))).logAfter 2
    = [⟨7, .int 1⟩, ⟨7, .int 2⟩] := rfl
example : (iterT menuEnv (.map 7 (.add 1) (.src [.int 1, .int 2, .int 3]))).fullLog
    = [⟨7, .int 1⟩, ⟨7, .int 2⟩, ⟨7, .int 3⟩] := rfl

/-- consuming more results only ever extends the log: work done for the first `k` results is never redone
    or reordered by asking for more -/
theorem C08_logAfter_mono (t : TStream) {k k' : Nat} (h : k ≤ k') : t.logAfter k <+: t.logAfter k' := by
  unfold TStream.logAfter
  obtain ⟨r, hr⟩ := List.take_prefix_take_left (l := t.chunks) h
  rw [← hr]
  simp only [List.map_append, List.flatten_append]
  exact List.prefix_append _ _

example : (iterT menuEnv (.filter 3 (.keepMod 2 0) (.src [.int 1, .int 2, .int 3, .int 4]))).logAfter 1
    = [⟨3, .int 1⟩, ⟨3, .int 2⟩] := rfl

/-- once every result has been consumed, only the calls after the last `yield` are outstanding -/
theorem C08_logAfter_all (t : TStream) {k : Nat} (h : t.chunks.length ≤ k) :
    t.logAfter k ++ t.tail = t.fullLog := by
  simp [TStream.logAfter, TStream.fullLog, List.take_of_length_le h]

example : (iterT menuEnv (.filter 3 (.keepMod 2 0) (.src [.int 1, .int 2, .int 3]))).tail = [⟨3, .int 3⟩] := rfl

/-! ## 2. Erasure: forgetting the log gives the untraced (Layer A) stream of each stage -/

theorem C08_erase_map (ρ : Env) (sid : Nat) (f : FnSym) (cs : List (Log × Val)) (tl : Log) (e : Option Err) :
    (mapT ρ sid f cs tl e).erase = Stream.mapMAux (ρ.fn f) (cs.map (·.2)) e := by
  fun_induction mapT ρ sid f cs tl e with
  | case1 => rfl
  | case2 lg v rest tl e w h t ih => simp [Stream.mapMAux, h, ← ih, TStream.erase, t]
  | case3 lg v rest tl e er h => simp [Stream.mapMAux, h, TStream.erase]

example : (mapT menuEnv 1 (.raiseIfMod 3 0 .userA) [([], .int 1), ([], .int 3), ([], .int 4)] [] none).erase
    = ⟨[.int 1], some .userA⟩ := rfl

theorem C08_erase_filter (ρ : Env) (sid : Nat) (f : PredSym) (cs : List (Log × Val)) (pending tl : Log)
    (e : Option Err) :
    (filterT ρ sid f cs pending tl e).erase = Stream.filterMAux (ρ.pred f) (cs.map (·.2)) e := by
  fun_induction filterT ρ sid f cs pending tl e with
  | case1 => rfl
  | case2 lg v rest pending tl e h t ih => simp [Stream.filterMAux, h, ← ih, TStream.erase, t]
  | case3 lg v rest pending tl e h ih => simp [Stream.filterMAux, h, ← ih]
  | case4 lg v rest pending tl e er h => simp [Stream.filterMAux, h, TStream.erase]

example : (filterT menuEnv 1 (.keepMod 2 0) [([], .int 1), ([], .int 2), ([], .int 4)] [] [] none).erase
    = ⟨[.int 2, .int 4], none⟩ := rfl

theorem C08_erase_unbatch (cs : List (Log × Val)) (pending tl : Log) (e : Option Err) :
    (unbatchT cs pending tl e).erase = unbatchAux (cs.map (·.2)) e := by
  fun_induction unbatchT cs pending tl e with
  | case1 => rfl
  | case2 lg v rest pending tl e elems h => rw [List.map_cons, unbatchAux_cons h]; rfl
  | case3 lg v rest pending tl e elems h ih => rw [List.map_cons, unbatchAux_cons h]; exact ih
  | case4 lg v rest pending tl e elems x xs h t ih =>
    rw [List.map_cons, unbatchAux_cons h, ← ih]
    simp [TStream.erase, t, Function.comp_def]

example : (unbatchT [([⟨1, .int 0⟩], .list [.int 1, .int 2]), ([], .list []), ([⟨1, .int 5⟩], .tup [.int 3])] [] [] none).erase
    = ⟨[.int 1, .int 2, .int 3], none⟩ := rfl

theorem C08_erase_concat (a b : TStream) : (appendT a b).erase = a.erase.append b.erase :=
  erase_append a b

example : (appendT ⟨[([], .int 1)], [⟨1, .int 9⟩], none⟩ ⟨[([⟨2, .int 0⟩], .int 2)], [], some .userA⟩).erase
    = ⟨[.int 1, .int 2], some .userA⟩ := rfl

/-- `batch`, for any partially collected batch `cur` (and any `n`, also `n = 0`): the traced loop yields the
    groups of `chunkAux`; when the input ends with an error a started group is not handed out -/
theorem C08_erase_batch_cur (n : Nat) (dl : Bool) (cs : List (Log × Val)) (cur : List Val) (lg tl : Log)
    (e : Option Err) :
    (batchT n dl cs cur lg tl e).erase =
      match e with
      | none => ⟨(chunkAux n dl (cs.map (·.2)) cur).map Val.list, none⟩
      | some er => ⟨(chunkAux n true (cs.map (·.2)) cur).map Val.list, some er⟩ := by
  fun_induction batchT n dl cs cur lg tl e with
  | case1 => simp [chunkAux, TStream.erase]
  | case2 cur lg tl h => simp [chunkAux, TStream.erase, h]
  | case3 cur lg tl h => simp [chunkAux, TStream.erase, h]
  | case4 l v rest cur lg tl e cur' h t ih =>
    have hc (d : Bool) : chunkAux n d (v :: rest.map (·.2)) cur = cur'.reverse :: chunkAux n d (rest.map (·.2)) [] := by
      rw [chunkAux]; exact if_pos h
    rw [List.map_cons, hc, hc]
    cases e <;> exact congrArg (fun s : Stream Val => Stream.mk (.list cur'.reverse :: s.vals) s.err) ih
  | case5 l v rest cur lg tl e cur' h ih =>
    have hc (d : Bool) : chunkAux n d (v :: rest.map (·.2)) cur = chunkAux n d (rest.map (·.2)) cur' := by
      rw [chunkAux]; exact if_neg h
    rw [List.map_cons, hc, hc]
    exact ih

/-- `batch` (the hypothesis `1 ≤ n` is what the library asserts; the proof does not need it) -/
theorem C08_erase_batch (n : Nat) (dl : Bool) (cs : List (Log × Val)) (tl : Log) (e : Option Err)
    (_hn : 1 ≤ n) :
    (batchT n dl cs [] [] tl e).erase = batchStream n dl ⟨cs.map (·.2), e⟩ := by
  rw [C08_erase_batch_cur]
  cases e <;> rfl

example : (batchT 2 false [([], .int 1), ([], .int 2), ([], .int 3)] [] [] [] none).erase
    = ⟨[.list [.int 1, .int 2], .list [.int 3]], none⟩ := rfl

theorem C08_erase_src (ρ : Env) (xs : List Val) : (iterT ρ (.src xs)).erase = ⟨xs, none⟩ :=
  congrArg (Stream.mk · none) ((List.map_map ..).trans (List.map_id' xs))

example : (iterT menuEnv (.src [.int 1, .int 2])).erase = ⟨[.int 1, .int 2], none⟩ := rfl

/-! ## 3. Conservation of the log: a stage neither loses nor invents calls -/

/-- a complete iteration of `map` applies the function to the inputs of all results and to the one input after
    them, if there is one (the example on which the function raised) -/
theorem C08_log_map_exact (ρ : Env) (sid : Nat) (f : FnSym) (cs : List (Log × Val)) (tl : Log) (e : Option Err)
    (hf : ∀ c ∈ (cs.map (·.1)).flatten ++ tl, c.stage ≠ sid) :
    ((mapT ρ sid f cs tl e).fullLog.filter (·.stage == sid)).map (·.arg) =
      (cs.map (·.2)).take ((mapT ρ sid f cs tl e).chunks.length + 1) := by
  change sidArgs sid _ = _
  fun_induction mapT ρ sid f cs tl e with
  | case1 tl => simpa using sidArgs_fresh sid tl (all_tail hf)
  | case2 lg v rest tl e w h t ih =>
    obtain ⟨h1, h2⟩ := all_cons_split hf
    simp [sidArgs_fresh sid lg h1, t, ih h2]
  | case3 lg => simp [sidArgs_fresh sid lg (all_cons_split hf).1]

/-- hence `map` applies its function to a PREFIX of its input sequence: to each input example at most once, in
    input order. -/
theorem C08_log_map (ρ : Env) (sid : Nat) (f : FnSym) (cs : List (Log × Val)) (tl : Log) (e : Option Err)
    (hf : ∀ c ∈ (cs.map (·.1)).flatten ++ tl, c.stage ≠ sid) :
    ((mapT ρ sid f cs tl e).fullLog.filter (·.stage == sid)).map (·.arg) <+: cs.map (·.2) := by
  rw [C08_log_map_exact ρ sid f cs tl e hf]
  exact List.take_prefix _ _

/-- when the stage itself did not raise — the iteration ended without error, or every input produced a
    result — the function was applied to every input exactly once -/
theorem C08_log_map_total (ρ : Env) (sid : Nat) (f : FnSym) (cs : List (Log × Val)) (tl : Log) (e : Option Err)
    (hf : ∀ c ∈ (cs.map (·.1)).flatten ++ tl, c.stage ≠ sid)
    (h : (mapT ρ sid f cs tl e).err = none ∨ (mapT ρ sid f cs tl e).chunks.length = cs.length) :
    ((mapT ρ sid f cs tl e).fullLog.filter (·.stage == sid)).map (·.arg) = cs.map (·.2) := by
  rw [C08_log_map_exact ρ sid f cs tl e hf, h.elim (map_err_none ρ sid f cs tl e) id]
  exact List.take_of_length_le (by simp)

/-- the calls of all OTHER stages pass through `map` untouched, up to the point where `map` stopped
    (no freshness needed), and completely when the iteration ended without error -/
theorem C08_log_map_others (ρ : Env) (sid : Nat) (f : FnSym) (cs : List (Log × Val)) (tl : Log) (e : Option Err) :
    (mapT ρ sid f cs tl e).fullLog.filter (·.stage != sid) <+:
        ((cs.map (·.1)).flatten ++ tl).filter (·.stage != sid) ∧
    ((mapT ρ sid f cs tl e).err = none →
      (mapT ρ sid f cs tl e).fullLog.filter (·.stage != sid) =
        ((cs.map (·.1)).flatten ++ tl).filter (·.stage != sid)) := by
  have hself : ∀ v, List.filter (fun x => x.stage != sid) [(⟨sid, v⟩ : Call)] = [] := fun v => by simp
  fun_induction mapT ρ sid f cs tl e with
  | case1 => exact ⟨List.prefix_refl _, fun _ => rfl⟩
  | case2 lg v rest tl e w h t ih =>
    -- one element adds `lg ++ [⟨sid, v⟩]` on the left and `lg` on the right; `hself` drops the own call and
    -- the common `lg` cancels
    simp only [fullLog_cons, fullLog_congr, List.map_cons, List.flatten_cons, List.append_assoc, List.filter_append,
      hself, List.nil_append, List.prefix_append_right_inj, List.append_cancel_left_eq]
    simpa only [List.filter_append] using ih
  | case3 =>
    simp only [fullLog_nil, List.map_cons, List.flatten_cons, List.append_assoc, List.filter_append, hself,
      List.append_nil]
    exact ⟨List.prefix_append _ _, fun h => nomatch h⟩

example : (mapT menuEnv 1 (.raiseIfMod 3 0 .userA)
      [([⟨0, .int 10⟩], .int 1), ([⟨0, .int 30⟩], .int 3), ([⟨0, .int 40⟩], .int 4)] [] none).fullLog
    = [⟨0, .int 10⟩, ⟨1, .int 1⟩, ⟨0, .int 30⟩, ⟨1, .int 3⟩] := rfl

/-- `filter` applies its predicate to a PREFIX of its input sequence (each example at most once, in order);
    to all of it when the iteration ended without error -/
theorem C08_log_filter (ρ : Env) (sid : Nat) (f : PredSym) (cs : List (Log × Val)) (tl : Log) (e : Option Err)
    (hf : ∀ c ∈ (cs.map (·.1)).flatten ++ tl, c.stage ≠ sid) :
    ((filterT ρ sid f cs [] tl e).fullLog.filter (·.stage == sid)).map (·.arg) <+: cs.map (·.2) ∧
    ((filterT ρ sid f cs [] tl e).err = none →
      ((filterT ρ sid f cs [] tl e).fullLog.filter (·.stage == sid)).map (·.arg) = cs.map (·.2)) :=
  log_filter ρ sid f cs [] tl e hf

example : (filterT menuEnv 2 (.raiseIfMod 3 0 .userB) [([], .int 1), ([], .int 3), ([], .int 4)] [] [] none).fullLog
    = [⟨2, .int 1⟩, ⟨2, .int 3⟩] := rfl

/-! ## 4. No look-ahead -/

/-- `map`: after `k` results the function has been applied to exactly the first `k` inputs — not one more -/
theorem C08_no_lookahead_map (ρ : Env) (sid : Nat) (f : FnSym) (cs : List (Log × Val)) (tl : Log) (e : Option Err)
    (hf : ∀ c ∈ (cs.map (·.1)).flatten ++ tl, c.stage ≠ sid) (k : Nat) :
    (((mapT ρ sid f cs tl e).logAfter k).filter (·.stage == sid)).map (·.arg) =
      (cs.map (·.2)).take (min k (mapT ρ sid f cs tl e).chunks.length) := by
  change sidArgs sid _ = _
  fun_induction mapT ρ sid f cs tl e generalizing k with
  | case1 => simp
  | case2 lg v rest tl e w h t ih =>
    obtain ⟨h1, h2⟩ := all_cons_split hf
    cases k with
    | zero => simp
    | succ k => simp [sidArgs_fresh sid lg h1, t, ih h2 k]
  | case3 => simp

example : ((mapT menuEnv 1 (.add 1) [([], .int 1), ([], .int 2), ([], .int 3)] [] none).logAfter 1)
    = [⟨1, .int 1⟩] := rfl

/-- `filter`: after `k` results the predicate has been applied to a prefix of the inputs (i) whose accepted
    elements are exactly the `k` results handed out (ii) and which ends with the `k`-th result (iii): the
    predicate has run up to and including the `k`-th accepted input and not beyond.
    `accepted ρ f v` means `ρ.pred f v = .ok true`. -/
theorem C08_no_lookahead_filter (ρ : Env) (sid : Nat) (f : PredSym) (cs : List (Log × Val)) (tl : Log)
    (e : Option Err) (hf : ∀ c ∈ (cs.map (·.1)).flatten ++ tl, c.stage ≠ sid) (k : Nat) :
    let t := filterT ρ sid f cs [] tl e
    let args := ((t.logAfter k).filter (·.stage == sid)).map (·.arg)
    args <+: cs.map (·.2) ∧
    args.filter (accepted ρ f) = (t.chunks.take k).map (·.2) ∧
    (∀ j, k = j + 1 → j < t.chunks.length → args.getLast? = (t.chunks[j]?).map (·.2)) := by
  obtain ⟨h2, h3⟩ := filter_no_lookahead ρ sid f cs [] tl e hf (fun _ h => nomatch h) k
  exact ⟨(sidArgs_prefix sid (C08_prefix _ k)).trans (log_filter ρ sid f cs [] tl e hf).1, h2, h3⟩

example : ((filterT menuEnv 2 (.keepMod 2 0) [([], .int 1), ([], .int 2), ([], .int 3), ([], .int 4), ([], .int 5)]
      [] [] none).logAfter 1) = [⟨2, .int 1⟩, ⟨2, .int 2⟩] := rfl
example : ((filterT menuEnv 2 (.keepMod 2 0) [([], .int 1), ([], .int 2), ([], .int 3), ([], .int 4), ([], .int 5)]
      [] [] none).logAfter 2) = [⟨2, .int 1⟩, ⟨2, .int 2⟩, ⟨2, .int 3⟩, ⟨2, .int 4⟩] := rfl

/-! ## 5. `batch` is at most one batch ahead -/

/-- consuming `k` batches has touched exactly the first `k * n` inputs (`k` up to the number of full
    batches): chunk `j` holds the calls of the inputs `j*n … j*n+n-1` and nothing else -/
theorem C08_batch_chunk (n : Nat) (dl : Bool) (cs : List (Log × Val)) (tl : Log) (e : Option Err)
    (hn : 1 ≤ n) (k : Nat) (hk : k * n ≤ cs.length) :
    (batchT n dl cs [] [] tl e).logAfter k = ((cs.take (k * n)).map (·.1)).flatten := by
  obtain ⟨d, rfl⟩ : ∃ d, n = d + 1 := ⟨n - 1, (Nat.sub_add_cancel hn).symm⟩
  cases k with
  | zero => rw [Nat.zero_mul]; rfl
  | succ k =>
    rw [Nat.succ_mul] at hk ⊢
    exact batch_logAfter (d + 1) dl cs [] [] tl e d k (Nat.add_comm _ _) hk

example : ((batchT 2 false [([⟨1, .int 1⟩], .int 1), ([⟨1, .int 2⟩], .int 2), ([⟨1, .int 3⟩], .int 3),
      ([⟨1, .int 4⟩], .int 4), ([⟨1, .int 5⟩], .int 5)] [] [] [] none).logAfter 1)
    = [⟨1, .int 1⟩, ⟨1, .int 2⟩] := rfl

/-! ## 6. The buffer-local shuffle is exactly `bs - 1` inputs ahead -/

/-- Exact form of the look-ahead of `LocalShuffleDataset.__iter__`: once `k ≥ 1` results have been handed out
    by the loop (so `k + bs - 1 ≤ cs.length`, the first `k` drawn positions exist and are valid buffer
    positions) exactly the first `k + bs - 1` inputs have been pulled. Written with `k + 1` for `k`. -/
theorem C08_local_lookahead (bs : Nat) (cs : List (Log × Val)) (choices final : List Nat) (tl : Log)
    (e : Option Err) (hbs : 1 ≤ bs) (k : Nat) (hk : k + bs ≤ cs.length) (hc : k + 1 ≤ choices.length)
    (hv : ∀ c ∈ choices.take (k + 1), c < bs) :
    (localT bs cs [] [] choices final tl e).logAfter (k + 1) = ((cs.take (k + 1 + bs - 1)).map (·.1)).flatten := by
  obtain ⟨d, rfl⟩ : ∃ d, bs = d + 1 := ⟨bs - 1, (Nat.sub_add_cancel hbs).symm⟩
  rw [local_logAfter (d + 1) cs [] [] choices final tl e d k (Nat.add_comm _ _) hk hc hv, Nat.add_right_comm k 1]
  rfl

example : ((localT 3 [([⟨1, .int 1⟩], .int 1), ([⟨1, .int 2⟩], .int 2), ([⟨1, .int 3⟩], .int 3),
      ([⟨1, .int 4⟩], .int 4), ([⟨1, .int 5⟩], .int 5)] [] [] [2, 0, 1] [0, 1] [] none).logAfter 1)
    = [⟨1, .int 1⟩, ⟨1, .int 2⟩, ⟨1, .int 3⟩] := rfl

/-- the bound `k + bs - 1 ≤ cs.length` is needed: results of the final flush (here the 2nd of 3 inputs with
    `bs = 3`) come after the input has ended, so their log also holds the input's trailing calls — it is not
    `take (k + bs - 1)` of the input chunks -/
example : ((localT 3 [([⟨1, .int 1⟩], .int 1), ([⟨1, .int 2⟩], .int 2), ([⟨1, .int 3⟩], .int 3)]
      [] [] [2] [0, 1] [⟨1, .int 9⟩] none).logAfter 2)
    = [⟨1, .int 1⟩, ⟨1, .int 2⟩, ⟨1, .int 3⟩, ⟨1, .int 9⟩] := rfl

/-! ## 7. The footprint of indexing -/

/-- `ds.map(f)[i]` fetches `ds[i]` and applies `f` once, to that one example -/
theorem C08_getitem_map (ρ : Env) (sid : Nat) (f : FnSym) (p : TPipe) (i : Nat) :
    getT ρ (.map sid f p) i =
      (let (lg, r) := getT ρ p i
       match r with
       | .ok v => (lg ++ [⟨sid, v⟩], ρ.fn f v)
       | .error e => (lg, .error e)) := by
  rw [getT.eq_def]
  dsimp only
  rcases getT ρ p i with ⟨lg, r⟩
  cases r <;> rfl

/-- hence the function of a `map` stage is applied exactly once by `ds[i]`, to the input example `i`
    (and not at all when fetching that example failed) -/
theorem C08_getitem_map_once (ρ : Env) (sid : Nat) (f : FnSym) (p : TPipe) (i : Nat)
    (hf : ∀ c ∈ (getT ρ p i).1, c.stage ≠ sid) :
    (((getT ρ (.map sid f p) i).1).filter (·.stage == sid)).map (·.arg) =
      match (getT ρ p i).2 with
      | .ok v => [v]
      | .error _ => [] := by
  change sidArgs sid _ = _
  rw [C08_getitem_map]
  revert hf
  rcases getT ρ p i with ⟨lg, r⟩
  intro hf
  cases r <;> simp [sidArgs_fresh sid lg hf]

example : getT menuEnv (.map 1 (.add 1) (.map 0 (.add 10) (.src [.int 1, .int 2, .int 3]))) 1
    = ([⟨0, .int 2⟩, ⟨1, .int 12⟩], .ok (.int 13)) := by rw [C08_getitem_map, getT_map_src]; rfl

/-- indexing a source calls nothing -/
theorem C08_getitem_src (ρ : Env) (xs : List Val) (i : Nat) : (getT ρ (.src xs) i).1 = [] := by
  rw [getT.eq_def]

example : getT menuEnv (.src [.int 1]) 5 = ([], .error .indexError) := by unfold getT; rfl

/-- indexing a slice touches the selected position only -/
theorem C08_getitem_slice (ρ : Env) (sel : List Nat) (p : TPipe) (i : Nat) :
    getT ρ (.slice sel p) i =
      match sel[i]? with
      | some j => getT ρ p j
      | none => ([], .error .indexError) := by
  rw [getT.eq_def]
  dsimp only
  cases sel[i]? <;> rfl

example : getT menuEnv (.slice [2, 0] (.map 1 (.add 1) (.src [.int 1, .int 2, .int 3]))) 0
    = ([⟨1, .int 3⟩], .ok (.int 4)) := by rw [C08_getitem_slice]; exact getT_map_src ..

/-- iterating a slice: each chunk is the complete `ds[j]` outcome (calls and value) of the selected position, in
    selection order -/
theorem C08_slice_iter_full (ρ : Env) (p : TPipe) (sel : List Nat) :
    (sliceT ρ p sel).chunks.map (fun c => (c.1, (Except.ok c.2 : Res Val))) =
      (sel.take (sliceT ρ p sel).chunks.length).map (getT ρ p) := by
  fun_induction sliceT ρ p sel with
  | case1 => rfl
  | case2 j rest lg v h t ih => simp [t, ih, h]
  | case3 => rfl

/-- … in particular the chunks are exactly the `ds[j]` footprints -/
theorem C08_slice_iter_chunks (ρ : Env) (p : TPipe) (sel : List Nat) :
    (sliceT ρ p sel).chunks.map (·.1) =
      (sel.take (sliceT ρ p sel).chunks.length).map (fun j => (getT ρ p j).1) := by
  have := congrArg (List.map (·.1)) (C08_slice_iter_full ρ p sel)
  simpa [Function.comp_def] using this

example : (iterT menuEnv (.slice [2, 0] (.map 1 (.add 1) (.src [.int 1, .int 2, .int 3])))).chunks
    = [([⟨1, .int 3⟩], .int 4), ([⟨1, .int 1⟩], .int 2)] := by
  rw [show iterT menuEnv (.slice _ _) = sliceT _ _ _ from rfl, sliceT_eq_walkT, funext (getT_map_src _ _ _ _)]; rfl

/-! ## 8. Construction is silent; calls arise in `map`/`filter` stages only -/

/-- Iterating a bare source performs no call.  Calls enter a log only in `mapT`, `filterT` and the `map`
    case of `getT` (see `C08_calls_only_from_stages`); every other stage only moves the chunks of its input
    around.  Constructing a pipeline is not an operation of this model at all: that the call log of the real
    library is empty after construction is verified by the correspondence check on the real code. -/
theorem C08_construction_silent (ρ : Env) (xs : List Val) : (iterT ρ (.src xs)).fullLog = [] :=
  (List.append_nil _).trans (flatten_map_fst_nil xs)

example : (iterT menuEnv (.batch 2 false (.src [.int 1, .int 2, .int 3]))).fullLog = [] := rfl

/-- Nothing is invented, for whole pipelines: every call of an iteration, and of an index access, carries the
    identifier of a `map` or `filter` stage of that pipeline (`stages p` lists them). -/
theorem C08_calls_only_from_stages (ρ : Env) (p : TPipe) :
    (∀ c ∈ (iterT ρ p).fullLog, c.stage ∈ stages p) ∧ (∀ i, ∀ c ∈ (getT ρ p i).1, c.stage ∈ stages p) :=
  ⟨iterT_stages ρ p, getT_stages ρ p⟩

/-- a pipeline without `map`/`filter` stages never calls anything, however it is consumed -/
theorem C08_no_stage_no_call (ρ : Env) (p : TPipe) (h : stages p = []) :
    (iterT ρ p).fullLog = [] ∧ ∀ i, (getT ρ p i).1 = [] :=
  ⟨List.eq_nil_iff_forall_not_mem.2 fun c hc => List.not_mem_nil (h ▸ iterT_stages ρ p c hc),
    fun i => List.eq_nil_iff_forall_not_mem.2 fun c hc => List.not_mem_nil (h ▸ getT_stages ρ p i c hc)⟩

example : stages (.zip (.unbatch (.batch 2 true (.src [.int 1]))) (.slice [0] (.src [.int 2]))) = [] := rfl

/-- No look-ahead for a `map` stage on top of ANY pipeline whose stages are numbered apart from it: after `k`
    results of `p.map(f)` the function `f` has been applied to exactly the first `k` results of `p`. -/
theorem C08_no_lookahead_map_pipe (ρ : Env) (sid : Nat) (f : FnSym) (p : TPipe) (hs : sid ∉ stages p) (k : Nat) :
    (((iterT ρ (.map sid f p)).logAfter k).filter (·.stage == sid)).map (·.arg) =
      (iterT ρ p).erase.vals.take (min k (iterT ρ (.map sid f p)).chunks.length) := by
  refine C08_no_lookahead_map ρ sid f _ _ _ (fun c hc h => hs ?_) k
  rw [← h]
  exact iterT_stages ρ p c hc

example : ((iterT menuEnv (.map 5 (.add 1) (.filter 4 (.keepMod 2 0) (.src [.int 1, .int 2, .int 3, .int 4])))).logAfter 1)
    = [⟨4, .int 1⟩, ⟨4, .int 2⟩, ⟨5, .int 2⟩] := rfl

/-! ## 9. `reshuffle`: the index-driven walk along the drawn permutation -/

/-- iterating a `ReShuffleDataset` whose generator drew `perm` is iterating `input[perm]` -/
theorem C08_reshuffle_is_slice (ρ : Env) (perm : List Nat) (p : TPipe) :
    iterT ρ (.reshuffle perm p) = iterT ρ (.slice perm p) :=
  rfl

theorem C08_erase_reshuffle (ρ : Env) (perm : List Nat) (p : TPipe) :
    (iterT ρ (.reshuffle perm p)).erase = (iterT ρ (.slice perm p)).erase := by
  rw [C08_reshuffle_is_slice]

/-- hence each chunk is the complete `ds[j]` outcome of the drawn position, in drawing order -/
theorem C08_reshuffle_iter_full (ρ : Env) (perm : List Nat) (p : TPipe) :
    (iterT ρ (.reshuffle perm p)).chunks.map (fun c => (c.1, (Except.ok c.2 : Res Val))) =
      (perm.take (iterT ρ (.reshuffle perm p)).chunks.length).map (getT ρ p) :=
  C08_slice_iter_full ρ p perm

/-- `ReShuffleDataset` refuses integer indexing, without calling anything -/
theorem C08_getitem_reshuffle (ρ : Env) (perm : List Nat) (p : TPipe) (i : Nat) :
    getT ρ (.reshuffle perm p) i = ([], .error .typeError) := by
  rw [getT.eq_def]

example : (iterT menuEnv (.reshuffle [2, 0, 1] (.map 1 (.add 1) (.src [.int 1, .int 2, .int 3])))).chunks
    = [([⟨1, .int 3⟩], .int 4), ([⟨1, .int 1⟩], .int 2), ([⟨1, .int 2⟩], .int 3)] := by
  rw [show iterT menuEnv (.reshuffle _ _) = sliceT _ _ _ from rfl, sliceT_eq_walkT, funext (getT_map_src _ _ _ _)]; rfl

/-! ## 10. `cache` (first pass over an empty cache) -/

/-- the first iteration over a fresh cache is the index-driven walk over `0 … n-1`, and `ds[i]` fetches `input[i]` -/
theorem C08_cache_is_range_slice (ρ : Env) (p : TPipe) (n : Nat) (h : lenT p = some n) :
    iterT ρ (.cache p) = iterT ρ (.slice (List.range n) p) ∧ ∀ i, getT ρ (.cache p) i = getT ρ p i := by
  refine ⟨?_, fun i => by rw [getT.eq_def]⟩
  unfold iterT
  rw [h]

theorem C08_getitem_cache (ρ : Env) (p : TPipe) (i : Nat) : getT ρ (.cache p) i = getT ρ p i := by
  rw [getT.eq_def]

/-- a dataset without `len` cannot be walked by index -/
theorem C08_cache_no_len (ρ : Env) (p : TPipe) (h : lenT p = none) :
    iterT ρ (.cache p) = ⟨[], [], some .typeError⟩ := by
  unfold iterT
  rw [h]

example : iterT menuEnv (.cache (.map 1 (.add 1) (.src [.int 1, .int 2])))
    = ⟨[([⟨1, .int 1⟩], .int 2), ([⟨1, .int 2⟩], .int 3)], [], none⟩ := by
  rw [show iterT menuEnv (.cache _) = sliceT _ _ [0, 1] from rfl, sliceT_eq_walkT, funext (getT_map_src _ _ _ _)]; rfl

/-! ## 11. `catch`: index driven, skips the positions whose exception matches -/

/-- the walk over ANY list of positions, `m = catchStop ρ E p sel` = the number of positions before the first
    failure that `except E` does not catch: the results are the successes among the first `m` positions; exactly
    the positions `sel[0] … sel[m]` have been evaluated, each once, in order; the stream ends with the exception of
    `sel[m]` (or normally when there is no such position) -/
theorem C08_catch_walk (ρ : Env) (E : List Err) (p : TPipe) (sel : List Nat) (pending : Log) :
    (catchT ρ E p sel pending).chunks.map (·.2) = (sel.take (catchStop ρ E p sel)).filterMap (okVal ρ p) ∧
    (catchT ρ E p sel pending).fullLog =
      pending ++ ((sel.take (catchStop ρ E p sel + 1)).map (fun j => (getT ρ p j).1)).flatten ∧
    (catchT ρ E p sel pending).err = (sel[catchStop ρ E p sel]?).bind (errOf ρ p) := by
  fun_induction catchT ρ E p sel pending with
  | case1 => simp
  -- `j` succeeds or is caught: the stop of `j :: rest` is the stop `m` of `rest` plus one (`catchStop_cons`), so
  -- each part speaks of `j` and then of what `ih` speaks of: `(j :: rest).take (m + 1 + 1) = j :: rest.take (m + 1)`,
  -- `(j :: rest)[m + 1]? = rest[m]?`
  | case2 j rest pending lg v h t ih =>
    obtain ⟨h1, h2⟩ := outcome_ok (E := E) h
    simp [catchStop_cons, h1, h2, t, ih, h, fullLog_congr]
  | case3 j rest pending lg e h hc ih =>
    obtain ⟨h1, h2⟩ := outcome_caught h hc
    simp [catchStop_cons, h1, h2, ih, h]
  -- `j` is the stop, at position `0`: no result; the log is the footprint of `(j :: rest).take 1 = [j]`
  | case4 j rest pending lg e h hc =>
    obtain ⟨h1, h2⟩ := outcome_uncaught h hc
    simp [catchStop_cons, h1, h2, h]

/-- `catch` over a dataset of length `n`, with `m` = the first position whose exception does not match `E`
    (`m = n` if there is none; `uncaught ρ E p j` says that `ds[j]` raises an exception not matched by `E`):
    the values are exactly the successful `ds[j]`, `j < m`, in order; `fullLog` is the concatenation of the `ds[j]`
    footprints of exactly the positions `0 … m` (`0 … n-1` if `m = n`): nothing beyond the failing position is
    evaluated and every position's calls appear once; the stream ends with the exception of position `m` -/
theorem C08_catch_chunks (ρ : Env) (E : List Err) (p : TPipe) (n : Nat) (h : lenT p = some n) :
    catchStop ρ E p (List.range n) ≤ n ∧
    (∀ j, j < catchStop ρ E p (List.range n) → uncaught ρ E p j = false) ∧
    (catchStop ρ E p (List.range n) < n → uncaught ρ E p (catchStop ρ E p (List.range n)) = true) ∧
    (iterT ρ (.catch E p)).chunks.map (·.2) = (List.range (catchStop ρ E p (List.range n))).filterMap (okVal ρ p) ∧
    (iterT ρ (.catch E p)).fullLog =
      ((List.range (min (catchStop ρ E p (List.range n) + 1) n)).map (fun j => (getT ρ p j).1)).flatten ∧
    (iterT ρ (.catch E p)).err =
      if catchStop ρ E p (List.range n) < n then errOf ρ p (catchStop ρ E p (List.range n)) else none := by
  rw [iterT_catch h]
  have hle : catchStop ρ E p (List.range n) ≤ n := by simpa using catchStop_le ρ E p (List.range n)
  obtain ⟨h1, h2, h3⟩ := C08_catch_walk ρ E p (List.range n) []
  have hb := catchStop_before ρ E p (List.range n)
  rw [List.take_range, Nat.min_eq_left hle] at hb h1
  refine ⟨hle, fun j hj => hb j (List.mem_range.2 hj), fun hlt => ?_, h1, ?_, ?_⟩
  · exact catchStop_at ρ E p (List.range n) _ (List.getElem?_range hlt)
  · rw [h2, List.take_range, List.nil_append]
  · rw [h3]
    split
    · next hlt => rw [List.getElem?_range hlt]; rfl
    · next hlt => rw [List.getElem?_eq_none (by simpa using hlt)]; rfl

/-- no look-ahead, for ANY list of positions: when the consumer holds `k` results the walk has evaluated a prefix
    `sel.take m` of the positions; the successes among them are exactly the results handed out; and the prefix
    ends with a success, the position of the last result -/
theorem C08_catch_no_lookahead_sel (ρ : Env) (E : List Err) (p : TPipe) (sel : List Nat) (k : Nat) :
    ∃ m, m ≤ sel.length ∧
      (catchT ρ E p sel []).logAfter k = ((sel.take m).map (fun j => (getT ρ p j).1)).flatten ∧
      (sel.take m).filterMap (okVal ρ p) = ((catchT ρ E p sel []).chunks.take k).map (·.2) ∧
      (m = 0 ∨ ∃ j, sel[m - 1]? = some j ∧ (okVal ρ p j).isSome = true) := by
  obtain ⟨m, hm, h1, h2, h3⟩ := catch_no_lookahead_gen ρ E p sel [] k
  exact ⟨m, hm, by simpa using h1, h2, h3⟩

/-- no look-ahead for `catch` over a dataset of length `n`: when the consumer holds `k` results, exactly the
    positions `0 … m-1` have been evaluated (the log is the concatenation of their `ds[j]` footprints, each once),
    their successes are the results handed out, and position `m-1` is itself a success — the last result.
    So catching never evaluates a position beyond the one it yields. -/
theorem C08_catch_no_lookahead (ρ : Env) (E : List Err) (p : TPipe) (n : Nat) (h : lenT p = some n) (k : Nat) :
    ∃ m, m ≤ n ∧
      (iterT ρ (.catch E p)).logAfter k = ((List.range m).map (fun j => (getT ρ p j).1)).flatten ∧
      (List.range m).filterMap (okVal ρ p) = ((iterT ρ (.catch E p)).chunks.take k).map (·.2) ∧
      (m = 0 ∨ (okVal ρ p (m - 1)).isSome = true) := by
  rw [iterT_catch h]
  obtain ⟨m, hm, h1, h2, h3⟩ := C08_catch_no_lookahead_sel ρ E p (List.range n) k
  simp only [List.length_range] at hm
  rw [List.take_range, Nat.min_eq_left hm] at h1 h2
  refine ⟨m, hm, h1, h2, ?_⟩
  rcases h3 with h3 | ⟨j, hj, hs⟩
  · exact Or.inl h3
  · by_cases h0 : m = 0
    · exact Or.inl h0
    · rw [List.getElem?_range (by omega)] at hj
      injection hj with hj
      exact Or.inr (hj ▸ hs)

/-- the same in the form "a prefix of the footprints up to and including the `k`-th success": if position `i` is
    the `k`-th success (`k ≥ 1`), then after `k` results nothing but (a prefix of) the positions `0 … i` has run -/
theorem C08_catch_no_lookahead_prefix (ρ : Env) (E : List Err) (p : TPipe) (n : Nat) (h : lenT p = some n)
    (k i : Nat) (hs : (okVal ρ p i).isSome = true) (hk : ((List.range i).filterMap (okVal ρ p)).length + 1 = k) :
    (iterT ρ (.catch E p)).logAfter k <+: ((List.range (i + 1)).map (fun j => (getT ρ p j).1)).flatten := by
  by_cases hi : i < n
  · -- position `i` is the `k`-th success among the first `i + 1` positions of `range n`
    have := catch_logAfter_prefix ρ E p (List.range n) [] k (i + 1) (by
      obtain ⟨v, hv⟩ := Option.isSome_iff_exists.1 hs
      rw [List.take_range, Nat.min_eq_left hi, List.range_succ, List.filterMap_append, List.length_append, ← hk]
      simp [hv])
    rwa [List.take_range, Nat.min_eq_left hi, ← iterT_catch h] at this
  · -- there is no position `i`: all that ever runs lies before it
    obtain ⟨m, hm, h1, _⟩ := C08_catch_no_lookahead ρ E p n h k
    obtain ⟨r, hr⟩ := List.take_prefix m (List.range (i + 1))
    rw [List.take_range, Nat.min_eq_left (Nat.le_succ_of_le (Nat.le_trans hm (Nat.le_of_not_lt hi)))] at hr
    rw [h1, ← hr, List.map_append, List.flatten_append]
    exact List.prefix_append _ _

example : iterT menuEnv (.catch [.userA] (.map 1 (.raiseIfMod 2 0 .userA) (.src [.int 1, .int 2, .int 3, .int 4])))
    = ⟨[([⟨1, .int 1⟩], .int 1), ([⟨1, .int 2⟩, ⟨1, .int 3⟩], .int 3)], [⟨1, .int 4⟩], none⟩ := by
  rw [iterT_catch rfl, catchT_eq_walkT, funext (getT_map_src _ _ _ _)]; rfl

/-- an exception that does not match ends the stream; position 3 is never evaluated -/
example : iterT menuEnv (.catch [.userC] (.map 1 (.raiseIfMod 3 0 .userA) (.src [.int 1, .int 2, .int 3, .int 4])))
    = ⟨[([⟨1, .int 1⟩], .int 1), ([⟨1, .int 2⟩], .int 2)], [⟨1, .int 3⟩], some .userA⟩ := by
  rw [iterT_catch rfl, catchT_eq_walkT, funext (getT_map_src _ _ _ _)]; rfl

/-- `CatchExceptionDataset` has no `__getitem__` for integers; nothing is called -/
theorem C08_getitem_catch (ρ : Env) (E : List Err) (p : TPipe) (i : Nat) :
    getT ρ (.catch E p) i = ([], .error .notImplemented) := by
  rw [getT.eq_def]

/-! ## 12. `tile`: `r` passes over the input -/

/-- the untraced view of `tile r` is the `r`-fold append of the untraced view of the input (`Stream.append` stops at
    the first pass that ends with an error, so no hypothesis on the input is needed) -/
theorem C08_tile_erase (ρ : Env) (r : Nat) (p : TPipe) :
    (iterT ρ (.tile r p)).erase = (List.replicate r (iterT ρ p).erase).foldr Stream.append Stream.nil :=
  erase_tile _ r

/-- for an input that iterates without error: the values `r` times over, no error -/
theorem C08_tile_erase_ok (ρ : Env) (r : Nat) (p : TPipe) (h : (iterT ρ p).err = none) :
    (iterT ρ (.tile r p)).erase = ⟨(List.replicate r (iterT ρ p).erase.vals).flatten, none⟩ := by
  rw [C08_tile_erase]
  induction r with
  | zero => rfl
  | succ r ih =>
    rw [List.replicate_succ, List.foldr_cons, ih, List.replicate_succ]
    simp [Stream.append, TStream.erase, h]

/-- … and every pass re-executes the calls of the input: the input is iterated afresh each time -/
theorem C08_tile_log (ρ : Env) (r : Nat) (p : TPipe) (h : (iterT ρ p).err = none) :
    (iterT ρ (.tile r p)).fullLog = (List.replicate r (iterT ρ p).fullLog).flatten :=
  fullLog_tile _ h r

/-- a single pass is the input itself; a failing pass ends the whole iteration -/
theorem C08_tile_one (ρ : Env) (p : TPipe) : iterT ρ (.tile 1 p) = iterT ρ p :=
  tileT_one _

theorem C08_tile_err (ρ : Env) (r : Nat) (p : TPipe) (e : Err) (h : (iterT ρ p).err = some e) :
    iterT ρ (.tile (r + 1) p) = iterT ρ p :=
  tileT_err _ e h r

/-- `ds.tile(r)[i]` touches position `i % n` of the input only -/
theorem C08_tile_getitem (ρ : Env) (r : Nat) (p : TPipe) (n i : Nat) (h : lenT p = some n) (hi : i < r * n) :
    getT ρ (.tile r p) i = getT ρ p (i % n) := by
  rw [getT.eq_def]
  simp only [h, if_pos hi]

theorem C08_tile_getitem_out (ρ : Env) (r : Nat) (p : TPipe) (n i : Nat) (h : lenT p = some n) (hi : r * n ≤ i) :
    getT ρ (.tile r p) i = ([], .error .indexError) := by
  rw [getT.eq_def]
  simp only [h, if_neg (Nat.not_lt.2 hi)]

example : iterT menuEnv (.tile 2 (.filter 3 (.keepMod 2 0) (.src [.int 1, .int 2, .int 3])))
    = ⟨[([⟨3, .int 1⟩, ⟨3, .int 2⟩], .int 2), ([⟨3, .int 3⟩, ⟨3, .int 1⟩, ⟨3, .int 2⟩], .int 2)], [⟨3, .int 3⟩], none⟩ := rfl

example : getT menuEnv (.tile 2 (.map 1 (.add 1) (.src [.int 1, .int 2, .int 3]))) 4
    = ([⟨1, .int 2⟩], .ok (.int 3)) := by rw [C08_tile_getitem _ _ _ 3 _ rfl (by decide)]; exact getT_map_src ..

/-! ## 13. `intersperse` -/

theorem C08_intersperse_len (p q : TPipe) (n₁ n₂ : Nat) (hp : lenT p = some n₁) (hq : lenT q = some n₂) :
    lenT (.intersperse p q) = some (n₁ + n₂) ∧ (intersperseOrder [n₁, n₂]).length = n₁ + n₂ := by
  refine ⟨?_, (order_length _).trans (by simp)⟩
  unfold lenT
  rw [hp, hq]
  rfl

/-- `ds[i]` of an interspersed dataset is `parts[d][j]` for the `i`-th entry `(d, j)` of the order table: it touches
    that one position of that one part -/
theorem C08_intersperse_getitem (ρ : Env) (p q : TPipe) (n₁ n₂ : Nat) (hp : lenT p = some n₁) (hq : lenT q = some n₂)
    (i : Nat) :
    getT ρ (.intersperse p q) i =
      match (intersperseOrder [n₁, n₂])[i]? with
      | some o => if o.d == 0 then getT ρ p o.j else getT ρ q o.j
      | none => ([], .error .indexError) := by
  rw [getT.eq_def]
  simp only [hp, hq]
  rfl

/-- iterating: when the traced streams of the parts have exactly `n₁` resp. `n₂` chunks, the interspersed stream
    consists of chunk `j` of part `d` for each entry `(d, j)` of the order table, in table order — `n₁ + n₂` chunks;
    it ends normally and its tail is empty, so `fullLog` is the concatenation of those chunk logs: the calls after
    the last `yield` of the parts (their tails) are never executed -/
theorem C08_intersperse_values (ρ : Env) (p q : TPipe) (n₁ n₂ : Nat) (hp : lenT p = some n₁) (hq : lenT q = some n₂)
    (ha : (iterT ρ p).chunks.length = n₁) (hb : (iterT ρ q).chunks.length = n₂) :
    (iterT ρ (.intersperse p q)).chunks =
      (intersperseOrder [n₁, n₂]).filterMap
        (fun (o : OrdEntry) => if o.d == 0 then (iterT ρ p).chunks[o.j]? else (iterT ρ q).chunks[o.j]?) ∧
    (iterT ρ (.intersperse p q)).chunks.length = n₁ + n₂ ∧
    (∀ (i : Nat) (o : OrdEntry), (intersperseOrder [n₁, n₂])[i]? = some o →
      (iterT ρ (.intersperse p q)).chunks[i]? =
        if o.d == 0 then (iterT ρ p).chunks[o.j]? else (iterT ρ q).chunks[o.j]?) ∧
    (iterT ρ (.intersperse p q)).tail = [] ∧
    (iterT ρ (.intersperse p q)).err = none ∧
    (iterT ρ (.intersperse p q)).fullLog = ((iterT ρ (.intersperse p q)).chunks.map (·.1)).flatten := by
  subst ha hb
  have ht : iterT ρ (.intersperse p q) =
      interT (intersperseOrder [(iterT ρ p).chunks.length, (iterT ρ q).chunks.length]) (iterT ρ p).chunks
        (iterT ρ p).tail (iterT ρ p).err (iterT ρ q).chunks (iterT ρ q).tail (iterT ρ q).err := by
    conv => lhs; unfold iterT
    rw [hp, hq]
  rw [ht]
  obtain ⟨h1, h2, h3⟩ := interT_order (iterT ρ p).chunks (iterT ρ q).chunks (iterT ρ p).tail (iterT ρ q).tail
    (iterT ρ p).err (iterT ρ q).err
  generalize interT _ _ _ _ _ _ _ = T at h1 h2 h3 ⊢
  refine ⟨?_, ?_, fun i o hio => ?_, h2, h3, ?_⟩
  · have := congrArg (List.filterMap id) h1
    rwa [List.filterMap_map, List.filterMap_map, Function.id_comp, List.filterMap_some] at this
  · have := congrArg List.length h1
    rwa [List.length_map, List.length_map, order_length] at this
  · have := congrArg (·[i]?) h1
    simp only [List.getElem?_map, hio] at this
    cases hc : T.chunks[i]? with
    | none => rw [hc] at this; cases this
    | some c => rw [hc] at this; exact Option.some.inj this
  · rw [TStream.fullLog, h2, List.append_nil]

/-- the order table of a 1-element and a 2-element part: fractions 1/2 (part 1), 1/1 (part 0), 2/2 (part 1) -/
theorem intersperseOrder_1_2 : intersperseOrder [1, 2] = [⟨1, 2, 1, 0⟩, ⟨1, 1, 0, 0⟩, ⟨2, 2, 1, 1⟩] := by
  have e : orderEntries [1, 2] = [⟨1, 1, 0, 0⟩, ⟨1, 2, 1, 0⟩, ⟨2, 2, 1, 1⟩] := rfl
  -- `List.mergeSort` is defined by well-founded recursion: `rfl` and `decide` do not compute it; `simp` sorts the
  -- three entries by its equation lemmas
  rw [intersperseOrder, e]
  simp [List.mergeSort, OrdEntry.le]

example : iterT menuEnv (.intersperse (.map 1 (.add 10) (.src [.int 1])) (.map 2 (.add 20) (.src [.int 1, .int 2])))
    = ⟨[([⟨2, .int 1⟩], .int 21), ([⟨1, .int 1⟩], .int 11), ([⟨2, .int 2⟩], .int 22)], [], none⟩ := by
  show interT (intersperseOrder [1, 2]) _ _ _ _ _ _ = _
  rw [intersperseOrder_1_2]; rfl

/-- `ds[1]` is position 0 of the first part -/
example : getT menuEnv (.intersperse (.map 1 (.add 10) (.src [.int 1])) (.map 2 (.add 20) (.src [.int 1, .int 2]))) 1
    = ([⟨1, .int 1⟩], .ok (.int 11)) := by
  rw [C08_intersperse_getitem _ _ _ 1 2 rfl rfl, intersperseOrder_1_2]
  exact getT_map_src ..

/-- a part that runs out early (its stream has fewer chunks than its `len`: the function raised) ends the
    interspersed stream with that error; the calls made by then are in the tail -/
example : iterT menuEnv (.intersperse (.map 1 (.add 10) (.src [.int 1]))
      (.map 2 (.raiseIfMod 2 0 .userA) (.src [.int 1, .int 2])))
    = ⟨[([⟨2, .int 1⟩], .int 1), ([⟨1, .int 1⟩], .int 11)], [⟨2, .int 2⟩], some .userA⟩ := by
  show interT (intersperseOrder [1, 2]) _ _ _ _ _ _ = _
  rw [intersperseOrder_1_2]; rfl

example : stages (.tile 2 (.cache (.catch [.userA] (.reshuffle [0] (.intersperse (.src [.int 1]) (.src [.int 2])))))) = [] := rfl

end LazyDs
