import LazyDs.Lemmas.Sound
/-
  C01 — iterating a pipeline equals the eager reference semantics.

  `build ρ p` is the model of the lazy code (`LazyDs/Model/Stage.lean`, validated against
  /repo on every run by the correspondence check); `ref ρ p` evaluates the same pipeline with
  eager list operations on plain data (`LazyDs/Spec/Ref.lean`).  The theorems hold for EVERY
  pipeline `p` (any composition, any depth), every source, every parameter and every
  interpretation `ρ` of the user functions (functions that may raise anything but `IndexError`).
-/
namespace LazyDs

/-- Iteration of the lazy pipeline yields exactly the stream of the eager reference — the values
    and how it ends (normally, or with which exception at which position). -/
theorem C01_iter_eq_ref (ρ : Env) (hρ : EnvOK ρ) (p : Pipeline) (ha : Adm ρ p) (d : DS)
    (h : build ρ p = .ok d) : ∃ r, ref ρ p = .ok r ∧ d.iter = r.stream := by
  obtain ⟨r, hr, hrel⟩ := build_ref ρ hρ p ha d h
  exact ⟨r, hr, hrel.iter⟩

/-- The same for iteration with keys (`items()`): same pairs, same order, same refusal. -/
theorem C01_items_eq_ref (ρ : Env) (hρ : EnvOK ρ) (p : Pipeline) (ha : Adm ρ p) (d : DS)
    (h : build ρ p = .ok d) : ∃ r, ref ρ p = .ok r ∧ d.iterK = r.kstream ∧
      (itemsDS d).iter = (Ref.items r).stream := by
  obtain ⟨r, hr, hrel⟩ := build_ref ρ hρ p ha d h
  refine ⟨r, hr, hrel.iterK, ?_⟩
  simp only [itemsDS, Ref.items, hrel.iterK, Ref.mapErr]

/-- Length, key table and indexability agree with the reference as well. -/
theorem C01_len_keys_eq_ref (ρ : Env) (hρ : EnvOK ρ) (p : Pipeline) (ha : Adm ρ p) (d : DS)
    (h : build ρ p = .ok d) : ∃ r, ref ρ p = .ok r ∧ d.len = r.len ∧ d.keys = r.keys ∧
      d.indexable = r.indexable := by
  obtain ⟨r, hr, hrel⟩ := build_ref ρ hρ p ha d h
  exact ⟨r, hr, hrel.len, hrel.keys, hrel.indexable⟩

/-- Positional access is Python list indexing of the reference's outcome list (negative indices
    wrap once, anything else outside raises `IndexError`). -/
theorem C01_getitem_eq_ref (ρ : Env) (hρ : EnvOK ρ) (p : Pipeline) (ha : Adm ρ p) (d : DS)
    (h : build ρ p = .ok d) (hi : d.indexable = true) :
    ∃ r, ref ρ p = .ok r ∧ ∀ i, d.getInt i = outAt r.outs i := by
  obtain ⟨r, hr, hrel⟩ := build_ref ρ hρ p ha d h
  exact ⟨r, hr, (hrel.idx (by rw [← hrel.indexable]; exact hi)).2⟩

/-- `copy()` (frozen or not) of a stateless pipeline denotes the same dataset. -/
theorem C01_copy_transparent (ρ : Env) (f : Bool) (p : Pipeline) : build ρ (.copy f p) = build ρ p :=
  build_copy ρ f p

/-- A one-time shuffle is the positional selection by the drawn permutation (`Dataset.shuffle(False)`
    returns `self[permutation]`). -/
theorem C01_shuffle_is_reindex (perm : List Nat) (d : DS) (n : Nat) (hn : d.len = .ok n)
    (hp : perm.length = n) : mkShuffleOnce perm d = mkSlice (.idx (perm.map Int.ofNat)) d := by
  simp [mkShuffleOnce, hn, hp, bind, Except.bind]

/-- Python slicing: the positions a `slice(start, stop, step)` selects are exactly the arithmetic
    progression from the clamped start below (above) the clamped stop. -/
theorem C01_pyslice_spec_pos (n : Nat) (a b : Option Int) (st : Int) (hst : 0 < st) :
    pySliceIdx n a b (some st) = .ok ((List.range n).filter (fun j : Nat =>
      decide (clampBound n a 0 0 n ≤ (j : Int) ∧ (j : Int) < clampBound n b n 0 n ∧
        ((j : Int) - clampBound n a 0 0 n) % st = 0))) :=
  pySliceIdx_spec_pos n a b hst

theorem C01_pyslice_spec_neg (n : Nat) (a b : Option Int) (st : Int) (hst : st < 0) :
    pySliceIdx n a b (some st) = .ok ((List.range n).filter (fun j : Nat =>
      decide (clampBound n b (-1) (-1) (n - 1) < (j : Int) ∧ (j : Int) ≤ clampBound n a (n - 1) (-1) (n - 1) ∧
        (clampBound n a (n - 1) (-1) (n - 1) - (j : Int)) % (-st) = 0))).reverse :=
  pySliceIdx_spec_neg n a b hst

/-! non-vacuity: a concrete pipeline of depth 3 that builds -/
example : ∃ d, build menuEnv (.batch 2 false (.map (.add 10) (.slice (.range (some 1) none none)
    (.dictSrc [("a", .int 1), ("b", .int 2), ("c", .int 3), ("d", .int 4)])))) = .ok d ∧
    d.iter = ⟨[.list [.int 12, .int 13], .list [.int 14]], none⟩ := ⟨_, rfl, rfl⟩

end LazyDs
