import LazyDs.Model.Profile
/-
  C20 — the profiling wrapper is transparent and counts truthfully.
-/
namespace LazyDs
open Profile

/-! ### `profIter` case by case -/

theorem profIter_of_le {α} (s : Stream α) {k : Nat} (c : Counters) (hk : k ≤ s.vals.length) :
    profIter s (some k) c = (⟨s.vals.take k, none⟩, { c with hits := c.hits + k }) := by
  unfold profIter; simp only [hk, if_true]

theorem profIter_of_gt {α} (s : Stream α) {k : Nat} (c : Counters) (hk : ¬ k ≤ s.vals.length) :
    profIter s (some k) c = profIter s none c := by
  unfold profIter; simp only [hk, if_false]

theorem profIter_none_cons {α} (x : α) (xs : List α) (err : Option Err) (c : Counters) :
    profIter ⟨x :: xs, err⟩ none c =
      (⟨x :: (profIter ⟨xs, err⟩ none { c with hits := c.hits + 1 }).1.vals,
        (profIter ⟨xs, err⟩ none { c with hits := c.hits + 1 }).1.err⟩,
       (profIter ⟨xs, err⟩ none { c with hits := c.hits + 1 }).2) := by
  cases err <;> simp [profIter] <;> omega

/-- Transparency of iteration: run to the end, the wrapper hands on exactly the stream of its input —
    same examples, same order, same length, same error at the same position. -/
theorem C20_iter_transparent {α} (s : Stream α) (c : Counters) : (profIter s none c).1 = s := by
  unfold profIter
  cases h : s.err with
  | none => cases s; simp_all
  | some e => cases s; simp_all

/-- A consumer that stops after `k` results has received the first `k` examples of the input. -/
theorem C20_iter_prefix {α} (s : Stream α) (k : Nat) (c : Counters) (hk : k ≤ s.vals.length) :
    (profIter s (some k) c).1 = ⟨s.vals.take k, none⟩ := by
  rw [profIter_of_le s c hk]

/-- Counting: after a full consumption the hit count grew by the number of examples fetched, plus one
    if the fetch that ended the iteration raised; that failed fetch is counted separately when it
    raised an `Exception`. The terminating `StopIteration` is not a fetch. -/
theorem C20_hits_full {α} (s : Stream α) (c : Counters) :
    (profIter s none c).2.hits = c.hits + s.vals.length + (if s.err.isSome then 1 else 0) ∧
    (profIter s none c).2.failed = c.failed +
      (match s.err with | some e => if e.isA .exception then 1 else 0 | none => 0) := by
  unfold profIter
  cases s.err with
  | none => simp
  | some e => simp

/-- Counting for a consumer that stops early: exactly `k` fetches, none failed. -/
theorem C20_hits_partial {α} (s : Stream α) (k : Nat) (c : Counters) (hk : k ≤ s.vals.length) :
    (profIter s (some k) c).2 = { c with hits := c.hits + k } := by
  rw [profIter_of_le s c hk]

/-- `ds[i]` through the wrapper: same outcome, one hit, a failure counted separately. -/
theorem C20_getitem_transparent {α} (r : Res α) (c : Counters) :
    (profGet r c).1 = r ∧ (profGet r c).2.hits = c.hits + 1 ∧
    (profGet r c).2.failed = c.failed + (match r with | .error e => if e.isA .exception then 1 else 0 | .ok _ => 0) := by
  cases r <;> simp [profGet]

/-- Copies share the counters: consuming through the original and through a copy (e.g. the frozen
    copies that prefetch makes) adds up. -/
theorem C20_shared_counts_under_copy {α} (s t : Stream α) (c : Counters) :
    (profIter t none (profIter s none c).2).2.hits =
      c.hits + (s.vals.length + (if s.err.isSome then 1 else 0)) + (t.vals.length + (if t.err.isSome then 1 else 0)) := by
  rw [(C20_hits_full t _).1, (C20_hits_full s c).1]
  omega

/-- Counters never decrease and `failed ≤ hits` is preserved. -/
theorem C20_failed_le_hits {α} (s : Stream α) (d : Option Nat) (c : Counters) (h : c.failed ≤ c.hits) :
    (profIter s d c).2.failed ≤ (profIter s d c).2.hits ∧ c.hits ≤ (profIter s d c).2.hits := by
  have full : (profIter s none c).2.failed ≤ (profIter s none c).2.hits ∧
      c.hits ≤ (profIter s none c).2.hits := by
    rw [(C20_hits_full s c).1, (C20_hits_full s c).2]
    cases s.err with
    | none => exact ⟨Nat.le_trans h (Nat.le_add_right _ _), Nat.le_add_right _ _⟩
    | some e => simp only [Option.isSome_some, if_true]; split <;> omega
  cases d with
  | none => exact full
  | some k =>
    by_cases hk : k ≤ s.vals.length
    · rw [profIter_of_le s c hk]; exact ⟨Nat.le_trans h (Nat.le_add_right _ _), Nat.le_add_right _ _⟩
    · rw [profIter_of_gt s c hk]; exact full

/-- The internal marker `_ItemsNotDefined` is a `BaseException`: a fetch that ends with it is a hit but
    not a *failed* hit. -/
example : (profIter (⟨[1, 2], some .itemsNotDefinedInternal⟩ : Stream Nat) none ⟨0, 0⟩).2 = ⟨3, 0⟩ := by decide +kernel
example : (profIter (⟨[1, 2], some .valueError⟩ : Stream Nat) none ⟨0, 0⟩).2 = ⟨3, 1⟩ := by decide +kernel
example : (profIter (⟨[1, 2, 3], none⟩ : Stream Nat) (some 2) ⟨5, 1⟩) = (⟨[1, 2], none⟩, ⟨7, 1⟩) := rfl

/-! ### the generator loop, step by step -/

/-- The closed form `profIter` (what the theorems above are about, and what the correspondence check
    runs) IS the loop: for every input stream, every demand and every counter state. -/
theorem C20_loop_eq_closed_form {α} (vals : List α) (err : Option Err) (d : Option Nat) (c : Counters) :
    profLoop vals err d c = profIter ⟨vals, err⟩ d c := by
  induction vals generalizing d c with
  | nil =>
    cases d with
    | none => cases err <;> rfl
    | some k => cases k <;> cases err <;> rfl
  | cons x xs ih =>
    cases d with
    | none =>
      rw [profLoop, profIter_none_cons]
      · simp only [Option.map_none, ih]
      · intro h; cases h
    | some k =>
      cases k with
      | zero => rw [profLoop, profIter_of_le _ _ (Nat.zero_le _)]; rfl
      | succ k =>
        rw [profLoop]
        · simp only [Option.map_some, Nat.add_sub_cancel, ih]
          by_cases hk : k ≤ xs.length
          · rw [profIter_of_le _ _ hk, profIter_of_le _ _ (Nat.succ_le_succ hk)]
            simp only [List.take_succ_cons, Nat.add_assoc, Nat.add_comm 1 k]
          · rw [profIter_of_gt _ _ hk, profIter_of_gt _ _ (fun h => hk (Nat.le_of_succ_le_succ h)),
              profIter_none_cons]
        · intro h; cases h

example : profLoop [1, 2, 3] (some .valueError) none ⟨0, 0⟩ = (⟨[1, 2, 3], some .valueError⟩, ⟨4, 1⟩) := by rfl
example : profLoop [1, 2, 3] none none ⟨0, 0⟩ = ((⟨[1, 2, 3], none⟩ : Stream Nat), ⟨3, 0⟩) := by rfl
example : profLoop [1, 2, 3] none (some 2) ⟨0, 0⟩ = ((⟨[1, 2], none⟩ : Stream Nat), ⟨2, 0⟩) := by rfl

end LazyDs
