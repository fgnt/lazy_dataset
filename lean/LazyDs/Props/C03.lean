import LazyDs.Lemmas.Sound
/-
  C03 — keys(), items() and key lookup are aligned with iteration order.
  (The clause "an absent key raises" is in `Lemmas/AbsentKey.lean`: it holds for sources, map,
  items, cache, concatenate, intersperse, key_zip and is FALSE for slice-like stages — known
  finding F15, `absent_slice_counterexample`.)
-/
namespace LazyDs

/-- With a key table on an indexable dataset: one key per example, `items()` yields exactly the
    pairs `(keys[t], t-th iterated example)` in that order, and raises exactly when iteration does. -/
theorem C03_keys_aligned (ρ : Env) (hρ : EnvOK ρ) (p : Pipeline) (ha : Adm ρ p) (d : DS)
    (h : build ρ p = .ok d) (hi : d.indexable = true) (ks : List String) (hk : d.keys = .ok ks) :
    d.len = .ok ks.length ∧
    d.iterK.vals.map (·.2) = d.iter.vals ∧
    d.iterK.vals.map (·.1) = ks.take d.iterK.vals.length ∧
    d.iterK.err = d.iter.err := by
  obtain ⟨r, _, hrel, wf⟩ := build_sound ρ hρ p ha h
  obtain ⟨h1, h2, h3⟩ := hrel.keyedOK wf.toRefWF hi hk
  have hri := hrel.ref_indexable hi
  exact ⟨by rw [hrel.len, wf.lenOuts hri, wf.keysLen hri ks (hrel.keys ▸ hk)], h2, h3, h1⟩

/-- When iteration ends normally there is exactly one key per yielded example (also for an empty selection). -/
theorem C03_keys_one_per_example (ρ : Env) (hρ : EnvOK ρ) (p : Pipeline) (ha : Adm ρ p) (d : DS)
    (h : build ρ p = .ok d) (hi : d.indexable = true) (ks : List String) (hk : d.keys = .ok ks)
    (he : d.iter.err = none) : ks.length = d.iter.vals.length ∧ d.iterK.vals.map (·.1) = ks := by
  obtain ⟨r, _, hrel, wf⟩ := build_sound ρ hρ p ha h
  have hri := hrel.ref_indexable hi
  have hrk : r.keys = .ok ks := by rw [← hrel.keys]; exact hk
  obtain ⟨h1, h2, h3⟩ := wf.keyed ks hrk hri
  have he' : r.stream.err = none := by rw [← hrel.iter]; exact he
  have hlen : r.stream.vals.length = r.outs.length := (wf.pos hri).2.2 he'
  have hkl := wf.keysLen hri ks hrk
  have hkv : r.kstream.vals.length = r.stream.vals.length := by
    rw [← h2, List.length_map]
  refine ⟨?_, ?_⟩
  · rw [hrel.iter, hkl, hlen]
  · rw [hrel.iterK, h3, hkv, hlen, ← hkl, List.take_length]

/-- Every dataset (derived by filtering, prefetching, catching, … included): what `items()` yields
    is a correctly paired prefix of what iteration yields, and if `items()` does not raise it is
    complete — it pairs every yielded example or refuses loudly. -/
theorem C03_items_pair_or_refuse (ρ : Env) (hρ : EnvOK ρ) (p : Pipeline) (ha : Adm ρ p) (d : DS)
    (h : build ρ p = .ok d) :
    (d.iterK.vals.map (·.2)) <+: d.iter.vals ∧
    (d.iterK.err = none → d.iterK.vals.map (·.2) = d.iter.vals ∧ d.iter.err = none) := by
  obtain ⟨r, _, hrel, wf⟩ := build_sound ρ hρ p ha h
  exact hrel.pairsOK wf.toRefWF

/-- `ds[key]` for the key listed at position `j` returns the example at position `j`. -/
theorem C03_getKey_present (ρ : Env) (hρ : EnvOK ρ) (p : Pipeline) (ha : Adm ρ p) (d : DS)
    (h : build ρ p = .ok d) (hi : d.indexable = true) (ks : List String) (hk : d.keys = .ok ks)
    (j : Nat) (hj : j < ks.length) : d.getKey ks[j] = d.getInt (j : Int) := by
  obtain ⟨r, _, hrel⟩ := build_ref ρ hρ p ha d h
  exact hrel.getKey_getInt hi hk j hj

/-- … and that is the j-th iterated example whenever iteration reaches position j. -/
theorem C03_getKey_is_iterated_example (ρ : Env) (hρ : EnvOK ρ) (p : Pipeline) (ha : Adm ρ p) (d : DS)
    (h : build ρ p = .ok d) (hi : d.indexable = true) (ks : List String) (hk : d.keys = .ok ks)
    (j : Nat) (hj : j < ks.length) (hjv : j < d.iter.vals.length) : d.getKey ks[j] = .ok d.iter.vals[j] := by
  obtain ⟨r, _, hrel, wf⟩ := build_sound ρ hρ p ha h
  rw [C03_getKey_present ρ hρ p ha d h hi ks hk j hj, hrel.getInt_iter wf.toRefWF hi j hjv]

/-- The empty selection has the empty key table (the case of defect F2: the unrepaired library raises
    `TypeError` here). -/
theorem C03_empty_selection_keys :
    ∃ d, build menuEnv (.slice (.range (some 0) (some 0) none) (.dictSrc [("a", .int 1), ("b", .int 2)])) = .ok d ∧
      d.keys = .ok [] ∧ d.len = .ok 0 ∧ d.iter = ⟨[], none⟩ := ⟨_, rfl, rfl, rfl, rfl⟩

/-- A slice forwards key lookup to its input without consulting the selection (known finding F15). -/
theorem C03_getKey_absent_slice_counterexample :
    ∃ d, build menuEnv (.slice (.range (some 1) none none) (.dictSrc [("a", .int 1), ("b", .int 2)])) = .ok d ∧
      d.keys = .ok ["b"] ∧ d.getKey "a" = .ok (.int 1) := ⟨_, rfl, rfl, rfl⟩

end LazyDs
