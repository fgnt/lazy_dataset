/-
  Final theorems about `single_thread_prefetch` (model: `LazyDs.Conc.Stp`), for every buffer
  size `b ≥ 1`, every source `src₀` with every `ending`, and every schedule of worker, consumer
  and environment (`Reachable` quantifies over all schedules; no fairness is assumed anywhere).
  `1 ≤ b` is the `assert buffer_size > 0` of the Python code; only `stp_no_deadlock` uses it, the
  other statements that carry it hold for `b = 0` as well.
  The sections follow the properties C04, C05, C07; C06 (the error comes after the items that precede it) is the
  clause `raised = ending` of `stp_complete`.

  Every theorem is followed by an `example` exhibiting a concrete reachable state
  (`α = ε = Nat`) that satisfies its hypotheses.
-/
import LazyDs.Lemmas.StpInv

namespace LazyDs.Stp

variable {α ε : Type} {b : Nat} {src₀ : List α} {ending : Option ε} {s s' : St α ε} {t : Tid}

/-! ## C04: order, no loss, no duplication -/

/-- What the consumer has received so far is always a prefix of the source, in source order. -/
theorem stp_delivered_prefix (hb : 1 ≤ b) (h : Reachable b src₀ ending s) :
    s.delivered <+: src₀ :=
  (inv_reachable h).pre

/-- reachable, with one item delivered, one in the consumer's hand, one queued, one in the
    worker's hand (blocked on the full queue) and one still in the source -/
example : Reachable 1 [1, 2, 3, 4, 5] (none : Option Nat)
    { b := 1, q := [.item 3], shutdown := false, excInfo := none, src := [5], ending := none,
      pulled := 4, delivered := [1], closed := false, raised := none,
      w := .wPut 4, c := .cHave 2 } :=
  ⟨[.worker, .worker, .worker, .worker, .consumer, .consumer, .resume,
    .worker, .worker, .worker, .worker, .consumer,
    .worker, .worker, .worker, .worker, .worker, .worker, .worker], rfl⟩

/-- Before `shutdown` is set nothing is lost, duplicated or reordered: delivered items, the
    item in the consumer's hand, the queued items, the item in the worker's hand and the rest of
    the source make up exactly the source. -/
theorem stp_fifo_content (hb : 1 ≤ b) (h : Reachable b src₀ ending s)
    (hs : s.shutdown = false) :
    s.delivered ++ hand_c s ++ items s.q ++ hand_w s ++ s.src = src₀ := by
  simpa [hand_c, hand_w] using (inv_reachable h).fifo hs

/-- the state of the previous example: all five parts of the equation are non-empty -/
example : ∃ s : St Nat Nat, Reachable 1 [1, 2, 3, 4, 5] none s ∧ s.shutdown = false ∧
    s.delivered = [1] ∧ hand_c s = [2] ∧ items s.q = [3] ∧ hand_w s = [4] ∧ s.src = [5] :=
  ⟨_, ⟨[.worker, .worker, .worker, .worker, .consumer, .consumer, .resume,
    .worker, .worker, .worker, .worker, .consumer,
    .worker, .worker, .worker, .worker, .worker, .worker, .worker], rfl⟩,
    rfl, rfl, rfl, rfl, rfl, rfl⟩

/-- Normal end (the generator was never closed): every item was delivered, and what the
    consumer finally gets is exactly how the source ended: nothing for `ending = none`, the
    source's exception `e` for `ending = some e` (C06: all items before the failure first, then
    that same exception). -/
theorem stp_complete (hb : 1 ≤ b) (h : Reachable b src₀ ending s) (ht : terminal s)
    (hc : s.closed = false) : s.delivered = src₀ ∧ s.raised = ending := by
  have hI := inv_reachable h
  have hn := hI.norm hc (by simp [ht.1])
  refine ⟨hn.2.1, ?_⟩
  rw [hI.rais, ht.1, hc]
  exact hn.2.2

/-- a complete run over a source that raises `7` after three items -/
example : ∃ s : St Nat Nat, Reachable 1 [1, 2, 3] (some 7) s ∧ terminal s ∧ s.closed = false ∧
    s.delivered = [1, 2, 3] ∧ s.raised = some 7 :=
  ⟨_, ⟨[.worker, .worker, .worker, .worker, .consumer, .consumer, .resume,
    .worker, .worker, .worker, .worker, .consumer, .consumer, .resume,
    .worker, .worker, .worker, .worker, .consumer, .consumer, .resume,
    .worker, .worker, .worker, .worker,
    .consumer, .consumer, .consumer, .consumer, .consumer], rfl⟩,
    ⟨rfl, rfl⟩, rfl, rfl, rfl⟩

/-- End after `close()`: a prefix was delivered and nothing is raised into the consumer. -/
theorem stp_closed_prefix (hb : 1 ≤ b) (h : Reachable b src₀ ending s) (ht : terminal s)
    (hc : s.closed = true) : s.delivered <+: src₀ ∧ s.raised = none := by
  have hI := inv_reachable h
  refine ⟨hI.pre, ?_⟩
  rw [hI.rais, ht.1, hc]
  rfl

/-- closed after the first item while the worker was blocked in `put` with a full queue; the
    source would have raised `7` -/
example : ∃ s : St Nat Nat, Reachable 1 [1, 2, 3] (some 7) s ∧ terminal s ∧ s.closed = true ∧
    s.delivered = [1] ∧ s.pulled = 3 :=
  ⟨_, ⟨[.worker, .worker, .worker, .worker, .worker, .worker, .worker, .consumer,
    .worker, .worker, .worker, .worker, .consumer, .close,
    .consumer, .consumer, .worker, .worker, .worker,
    .consumer, .consumer, .consumer, .consumer], rfl⟩,
    ⟨rfl, rfl⟩, rfl, rfl, rfl⟩

/-! ## C05: clean termination -/

/-- No deadlock: as long as the run is not over and the generator is not suspended at a `yield`
    (where control is with the caller, see `stp_yield_enabled`), the worker or the consumer can
    take a step. -/
theorem stp_no_deadlock (hb : 1 ≤ b) (h : Reachable b src₀ ending s) (hnt : ¬ terminal s)
    (hy : s.c ≠ .cYield) :
    (∃ s', step s .worker = some s') ∨ (∃ s', step s .consumer = some s') :=
  (inv_reachable h).can_move hb hnt hy

/-- after `close()` the consumer waits in `join()` while the worker is blocked in `put` only
    until the queue has been drained: here the worker is the one that can move -/
example : ∃ s : St Nat Nat, Reachable 1 [1, 2, 3] none s ∧ ¬ terminal s ∧ s.c ≠ .cYield ∧
    s.c = .cJoin ∧ s.w = .wPut 3 ∧ step s .consumer = none :=
  ⟨_, ⟨[.worker, .worker, .worker, .worker, .worker, .worker, .worker, .consumer,
    .worker, .worker, .worker, .worker, .consumer, .close,
    .consumer, .consumer, .consumer], rfl⟩,
    (fun h => nomatch h.1), (fun h => nomatch h), rfl, rfl, rfl⟩

/-- At a `yield` the generator is suspended; the caller may both resume and close it. -/
theorem stp_yield_enabled (hy : s.c = .cYield) :
    (∃ s', step s .resume = some s') ∧ (∃ s', step s .close = some s') := by
  simp [step, hy]

example : ∃ s : St Nat Nat, Reachable 1 [1, 2, 3] none s ∧ s.c = .cYield :=
  ⟨_, ⟨[.worker, .worker, .worker, .worker, .consumer, .consumer], rfl⟩, rfl⟩

/-- When the generator has finished, the background thread has exited: no user code runs after
    control is back for good. -/
theorem stp_worker_exited (hb : 1 ≤ b) (h : Reachable b src₀ ending s) (hc : s.c = .cDone) :
    s.w = .wDone :=
  (inv_reachable h).after (by simp [hc])

/-- closed early, with items left in the source: the worker has exited all the same -/
example : ∃ s : St Nat Nat, Reachable 1 [1, 2, 3] none s ∧ s.c = .cDone ∧ s.src = [3] :=
  ⟨_, ⟨[.worker, .worker, .worker, .worker, .worker, .consumer, .consumer, .close,
    .consumer, .worker, .worker, .worker, .consumer, .consumer, .consumer], rfl⟩, rfl, rfl⟩

/-- Already once `thread.join()` has returned the worker has exited. -/
theorem stp_after_join (hb : 1 ≤ b) (h : Reachable b src₀ ending s)
    (hc : s.c = .cAfter ∨ s.c = .cDone) : s.w = .wDone :=
  (inv_reachable h).after (by rcases hc with hc | hc <;> simp [hc])

example : ∃ s : St Nat Nat, Reachable 1 [1, 2, 3] none s ∧ (s.c = .cAfter ∨ s.c = .cDone) :=
  ⟨_, ⟨[.worker, .worker, .worker, .worker, .worker, .consumer, .consumer, .close,
    .consumer, .worker, .worker, .worker, .consumer, .consumer], rfl⟩, Or.inl rfl⟩

/-- Termination: `mu` strictly decreases with every step of every thread, including the
    environment's `resume` and `close`, from every state (the invariant is not needed).  Hence a
    schedule that can be run from `s` has at most `mu s` steps (`run_length_le_mu`); no
    fairness assumption is involved. -/
theorem stp_terminates (h : step s t = some s') : mu s' < mu s :=
  mu_step h

/-- a worker step of a reachable state: `mu` drops from 28 to 27 -/
example : ∃ s s' : St Nat Nat, Reachable 1 [1, 2, 3] none s ∧ step s .worker = some s' ∧
    mu s = 28 ∧ mu s' = 27 :=
  ⟨_, _, ⟨[.worker, .worker, .worker, .worker, .consumer], rfl⟩, rfl, rfl, rfl⟩

/-- After `shutdown` has been set everything stops within `mu2 s` steps, where `mu2` does not
    look at the source at all (so this also covers sources that never end):
    `mu2` strictly decreases with every step (`run_length_le_mu2` for whole schedules). -/
theorem stp_stops_after_close (hsh : s.shutdown = true) (h : step s t = some s') :
    mu2 s' < mu2 s :=
  mu2_step hsh h

/-- shutdown set while the worker is at `wNext`: it still pulls one more item and then leaves -/
example : ∃ s s' : St Nat Nat, Reachable 1 [1, 2, 3] none s ∧ s.shutdown = true ∧
    step s .worker = some s' ∧ s.pulled = 1 ∧ s'.pulled = 2 ∧ mu2 s = 9 ∧ mu2 s' = 8 :=
  ⟨_, _, ⟨[.worker, .worker, .worker, .worker, .worker, .consumer, .consumer, .close,
    .consumer], rfl⟩, rfl, rfl, rfl, rfl, rfl, rfl⟩

/-! ## C07: bounded read-ahead -/

/-- The worker is never more than `b + 2` items ahead of the consumer: `b` in the queue, one in
    each thread's hand. -/
theorem stp_pulled_bound (hb : 1 ≤ b) (h : Reachable b src₀ ending s) :
    s.pulled ≤ s.delivered.length + s.b + 2 := by
  have hI := inv_reachable h
  have h1 := hI.sb
  have h2 := hI.qb
  have h3 := items_length_le s.q
  have h4 := handC_length_le s.c
  have h5 := handW_length_le s.w
  cases hs : s.shutdown with
  | false => have := hI.pull hs; omega
  | true => have := hI.pullS hs; omega

/-- the bound is attained -/
example : ∃ s : St Nat Nat, Reachable 1 [1, 2, 3, 4, 5] none s ∧
    s.pulled = s.delivered.length + s.b + 2 :=
  ⟨_, ⟨[.worker, .worker, .worker, .worker, .consumer, .consumer, .resume,
    .worker, .worker, .worker, .worker, .consumer,
    .worker, .worker, .worker, .worker, .worker, .worker, .worker], rfl⟩, rfl⟩

/-- The queue never holds more than `buffer_size` entries (sentinel included). -/
theorem stp_queue_bound (hb : 1 ≤ b) (h : Reachable b src₀ ending s) : s.q.length ≤ s.b := by
  have hi := inv_reachable h
  rw [hi.sb]
  exact hi.qb

/-- a full queue, with the worker blocked in `put` -/
example : ∃ s : St Nat Nat, Reachable 2 [1, 2, 3] none s ∧ s.q.length = s.b ∧
    step s .worker = none :=
  ⟨_, ⟨[.worker, .worker, .worker, .worker, .worker, .worker, .worker, .worker,
    .worker, .worker, .worker], rfl⟩, rfl, rfl⟩

end LazyDs.Stp
