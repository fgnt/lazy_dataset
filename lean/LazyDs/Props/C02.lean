import LazyDs.Lemmas.Sound
/-
  C02 — length and integer indexing agree with iteration.

  For every admissible pipeline (`Adm` in `Lemmas/Sound.lean`; its two side conditions that matter
  here, on `items()` and on `drop_last`, are necessary: the counterexamples below), every source,
  every user function that does not raise `IndexError`, every index.
-/
namespace LazyDs

/-- When iteration ends normally, `len(ds)` is the number of examples it yielded —
    for EVERY dataset that offers a length, indexable or not. -/
theorem C02_len_eq_count (ρ : Env) (hρ : EnvOK ρ) (p : Pipeline) (ha : Adm ρ p) (d : DS)
    (h : build ρ p = .ok d) (n : Nat) (hn : d.len = .ok n) (he : d.iter.err = none) :
    d.iter.vals.length = n := by
  obtain ⟨r, _, hrel, wf⟩ := build_sound ρ hρ p ha h
  exact hrel.len_eq_count wf.toRefWF hn he

/-- An indexable dataset reports a length, and it never yields more than that. -/
theorem C02_indexable_has_len (ρ : Env) (hρ : EnvOK ρ) (p : Pipeline) (ha : Adm ρ p) (d : DS)
    (h : build ρ p = .ok d) (hi : d.indexable = true) :
    ∃ n, d.len = .ok n ∧ d.iter.vals.length ≤ n := by
  obtain ⟨r, _, hrel, wf⟩ := build_sound ρ hρ p ha h
  have hri := hrel.ref_indexable hi
  exact ⟨r.outs.length, hrel.len ▸ wf.lenOuts hri, hrel.iter ▸ (wf.pos hri).1⟩

/-- `ds[t]` is the t-th iterated example, for every position iteration reaches. -/
theorem C02_getitem_eq_iter (ρ : Env) (hρ : EnvOK ρ) (p : Pipeline) (ha : Adm ρ p) (d : DS)
    (h : build ρ p = .ok d) (hi : d.indexable = true) (t : Nat) (ht : t < d.iter.vals.length) :
    d.getInt (t : Int) = .ok d.iter.vals[t] := by
  obtain ⟨r, _, hrel, wf⟩ := build_sound ρ hρ p ha h
  exact hrel.getInt_iter wf.toRefWF hi t ht

/-- `ds[i - len(ds)]` equals `ds[i]` for every `0 ≤ i < len(ds)`. -/
theorem C02_getitem_negative (ρ : Env) (hρ : EnvOK ρ) (p : Pipeline) (ha : Adm ρ p) (d : DS)
    (h : build ρ p = .ok d) (hi : d.indexable = true) (n : Nat) (hn : d.len = .ok n)
    (i : Int) (h0 : 0 ≤ i) (h1 : i < n) : d.getInt (i - n) = d.getInt i := by
  obtain ⟨r, _, hrel⟩ := build_ref ρ hρ p ha d h
  obtain ⟨rfl, hg⟩ := hrel.getInt_len hi hn
  rw [hg, hg, outAt_wrap _ i h0 h1]

/-- Every integer outside `[-len(ds), len(ds))` raises `IndexError`; no example is returned. -/
theorem C02_out_of_range_IndexError (ρ : Env) (hρ : EnvOK ρ) (p : Pipeline) (ha : Adm ρ p) (d : DS)
    (h : build ρ p = .ok d) (hi : d.indexable = true) (n : Nat) (hn : d.len = .ok n)
    (i : Int) (ho : i < -(n : Int) ∨ (n : Int) ≤ i) : d.getInt i = .error .indexError := by
  obtain ⟨r, _, hrel⟩ := build_ref ρ hρ p ha d h
  obtain ⟨rfl, hg⟩ := hrel.getInt_len hi hn
  rw [hg]
  exact ho.elim (outAt_lt_neg _ i) (outAt_ge _ i)

/-- If iteration ends normally, EVERY in-range index is covered: `len` examples, `ds[i]` the i-th. -/
theorem C02_complete (ρ : Env) (hρ : EnvOK ρ) (p : Pipeline) (ha : Adm ρ p) (d : DS)
    (h : build ρ p = .ok d) (hi : d.indexable = true) (he : d.iter.err = none) :
    d.len = .ok d.iter.vals.length ∧
    ∀ (t : Nat) (ht : t < d.iter.vals.length), d.getInt (t : Int) = .ok d.iter.vals[t] := by
  obtain ⟨n, hn, _⟩ := C02_indexable_has_len ρ hρ p ha d h hi
  have := C02_len_eq_count ρ hρ p ha d h n hn he
  exact ⟨by rw [hn, this], fun t ht => C02_getitem_eq_iter ρ hρ p ha d h hi t ht⟩

/-- The side condition on `items()` is necessary (known finding F18): over an input whose key
    table is refused, `items()` is indexable and iterates, but `ds.items()[i]` raises the refusal. -/
theorem C02_items_without_keys_counterexample :
    ∃ d, build menuEnv (.items (.concat (.cons (.dictSrc [("d", .int 1)]) (.cons (.dictSrc [("d", .int 2)]) .nil)))) = .ok d ∧
      d.indexable = true ∧ d.len = .ok 2 ∧ d.iter.err = none ∧ d.iter.vals.length = 2 ∧
      d.getInt 0 = .error .assertionError := ⟨_, rfl, rfl, rfl, rfl, rfl, rfl⟩

/-- The side condition on `batch(…, drop_last=True)` is necessary: an index at `len(ds)` walks into
    the dropped tail and surfaces ITS exception instead of `IndexError`. -/
theorem C02_batch_droplast_tail_counterexample :
    ∃ d, build menuEnv (.batch 2 true (.map (.raiseIfMod 3 0 .valueError) (.listSrc [.int 1, .int 2, .int 3]))) = .ok d ∧
      d.indexable = true ∧ d.len = .ok 1 ∧ d.getInt 1 = .error .valueError := ⟨_, rfl, rfl, rfl, rfl⟩

/-! non-vacuity of `Adm` -/
example : Adm menuEnv (.batch 2 false (.map (.add 1) (.dictSrc [("a", .int 1), ("b", .int 2), ("c", .int 3)]))) :=
  ⟨(by decide : ["a", "b", "c"].Nodup), by decide, fun _ _ _ h => nomatch h⟩

end LazyDs
