import LazyDs.Lemmas.Sound
/-
  C07, configuration side: the bounds of `StpTheorems` / `LpmTheorems` are stated for `1 ≤ b`
  (and the pool of `lazy_parallel_map` for a buffer of at least one slot per worker).  The stage
  constructor refuses every other configuration, so the hypothesis is met by every prefetch stage
  that exists; a configuration with `buffer_size = 0` would be `queue.Queue(0)`, an unbounded queue.
-/
namespace LazyDs

/-- A prefetch stage that was built has at least one worker and at least one buffer slot per worker. -/
theorem C07_prefetch_built_config {w b : Nat} {t : Bool} {c : Option (List Err)} {d ds : DS}
    (h : mkPrefetch w b t c d = .ok ds) : 1 ≤ w ∧ w ≤ b ∧ 1 ≤ b :=
  (whenOk_mkPrefetch (P := fun _ => 1 ≤ w ∧ w ≤ b ∧ 1 ≤ b) w b t c
    fun hw hb => ⟨hw, hb, Nat.le_trans hw hb⟩).elim h

/-- ... and conversely the constructor refuses a buffer below the worker count (in particular 0). -/
theorem C07_prefetch_refuses_small_buffer {w b : Nat} {t : Bool} {c : Option (List Err)} {d : DS}
    (hb : b < w ∨ w < 1) : ∃ e, mkPrefetch w b t c d = .error e := by
  cases h : mkPrefetch w b t c d with
  | error e => exact ⟨e, rfl⟩
  | ok ds => have := C07_prefetch_built_config h; omega

/-- non-vacuity of the premise -/
example : ∃ ds, mkPrefetch 2 3 true none (listSrc [.int 1, .int 2, .int 3]) = .ok ds := ⟨_, rfl⟩

example : mkPrefetch 1 0 true none (listSrc [.int 1]) = .error .assertionError := rfl

end LazyDs
