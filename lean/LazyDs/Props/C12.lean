import LazyDs.Lemmas.ShuffleLemmas
/-
  Property C12: the shuffles (model: `LazyDs.Model.Shuffle`).

  Everything numpy's generators draw is an INPUT of the model (an oracle value): the permutation
  `rng.shuffle` / `rng.permutation` produces, the index `rng.choice(buffer_size)` returns, the index
  set `rng.choice(n, size, replace=False)` returns.  Every theorem quantifies over all oracle values
  satisfying what numpy guarantees about them (a permutation of `range n`; an index `< buffer_size`;
  pairwise distinct in-range indices), over every list and every element type.

  * one-time shuffle `ds.shuffle(reshuffle=False)` = `ds[perm]`                 : `select l π`
  * shuffled tiling `ds.tile(k, shuffle=True)`                                   : `(πs.map (select l)).flatten`
  * `ds.random_choice(size, replace=False)`                                     : `select l idx`
  * `ds.shuffle(reshuffle=True, buffer_size=bs)` (`LocalShuffleDataset`)        : `localShuffle`
  * `ds.shuffle(reshuffle=True)` (`ReShuffleDataset`) and `copy(freeze=True)`   : `rstep` / `rrun`
-/
namespace LazyDs

open Shuffle

/-! ### one-time shuffle, shuffled tiling -/

/-- C12 (one-time shuffle).  Selecting by a permutation `π` of the positions yields every
    example exactly once: the result is a permutation (as a multiset: equal) of the input. -/
theorem C12_shuffle_perm {α} {l : List α} {π : List Nat} (hπ : π.Perm (List.range l.length)) :
    (select l π).Perm l := select_perm hπ

example : (select ["a", "b", "c", "b"] [2, 0, 3, 1]).Perm ["a", "b", "c", "b"] :=
  C12_shuffle_perm (by decide +kernel)
example : select ["a", "b", "c", "b"] [2, 0, 3, 1] = ["c", "a", "b", "b"] := by decide +kernel

/-- C12 (length).  Selecting in-range positions yields one example per position; in
    particular a one-time shuffle has the length of its input. -/
theorem C12_select_length {α} {l : List α} {idx : List Nat} (h : ∀ i ∈ idx, i < l.length) :
    (select l idx).length = idx.length := sliceList_length h

theorem C12_shuffle_length {α} {l : List α} {π : List Nat} (hπ : π.Perm (List.range l.length)) :
    (select l π).length = l.length := (select_perm hπ).length_eq

example : (select ["a", "b", "c"] [2, 2, 0, 1]).length = 4 := C12_select_length (by decide +kernel)
example : (select ["a", "b", "c"] [2, 0, 1]).length = 3 := C12_shuffle_length (by decide +kernel)

/-- C12 (shuffled tiling).  Every repetition is shuffled by its own permutation; the result is
    a permutation of `πs.length` copies of the input, and repetition by repetition a permutation
    of the input. -/
theorem C12_tile_shuffle_perm {α} {l : List α} {πs : List (List Nat)}
    (h : ∀ π ∈ πs, π.Perm (List.range l.length)) :
    ((πs.map (select l)).flatten).Perm ((List.replicate πs.length l).flatten) := by
  induction πs with
  | nil => exact .refl _
  | cons π πs ih =>
    exact (select_perm (h π (List.mem_cons_self ..))).append
      (ih (fun ρ hρ => h ρ (List.mem_cons_of_mem _ hρ)))

example : (([[2, 0, 1], [1, 0, 2]].map (select ["a", "b", "c"])).flatten).Perm
    ["a", "b", "c", "a", "b", "c"] :=
  C12_tile_shuffle_perm (by decide +kernel)
example : ([[2, 0, 1], [1, 0, 2]].map (select ["a", "b", "c"])).flatten
    = ["c", "a", "b", "b", "a", "c"] := by decide +kernel

/-! ### `random_choice` without replacement -/

/-- C12 (sampling without replacement, values).  Distinct in-range positions of a
    duplicate-free dataset select pairwise distinct examples.  (`select_nodup`: also without
    `hlt`, since positions out of range select nothing.) -/
theorem C12_choice_nodup {α} {l : List α} {idx : List Nat} (hidx : idx.Nodup)
    (hlt : ∀ i ∈ idx, i < l.length) (hl : l.Nodup) : (select l idx).Nodup := select_nodup hidx hl

example : (select ["a", "b", "c", "d"] [3, 1]).Nodup :=
  C12_choice_nodup (by decide +kernel) (by decide +kernel) (by decide +kernel)

/-- C12 (sampling without replacement, positions).  No assumption on the examples: tag every
    example with its position (`l.zipIdx`).  The selected tagged examples carry exactly the
    requested positions `idx`, in the requested order — so every chosen POSITION occurs at most once
    when `idx` is duplicate-free — and untagging gives `select l idx`. -/
theorem C12_choice_positions {α} {l : List α} {idx : List Nat} (hidx : idx.Nodup)
    (hlt : ∀ i ∈ idx, i < l.length) :
    (select l.zipIdx idx).map (·.2) = idx ∧
    ((select l.zipIdx idx).map (·.2)).Nodup ∧
    (select l.zipIdx idx).map (·.1) = select l idx := by
  -- selecting commutes with projecting: `sliceList_map` on the tagged list
  have hsnd : (select l.zipIdx idx).map (·.2) = idx := by
    have hr : ∀ i ∈ idx, i < (List.range' 0 l.length).length := by rwa [List.length_range']
    rw [select_eq_sliceList, ← sliceList_map, List.zipIdx_map_snd, sliceList_eq_map hr]
    exact (List.map_congr_left fun i hi => by simp [hlt i hi]).trans (List.map_id' _)
  refine ⟨hsnd, hsnd.symm ▸ hidx, ?_⟩
  rw [select_eq_sliceList, ← sliceList_map, List.zipIdx_map_fst]; rfl

example : (select ["a", "b", "a", "b"].zipIdx [3, 0, 2]).map (·.2) = [3, 0, 2] :=
  (C12_choice_positions (by decide +kernel) (by decide +kernel)).1
example : select ["a", "b", "a", "b"].zipIdx [3, 0, 2] = [("b", 3), ("a", 0), ("a", 2)] := by decide +kernel

/-! ### buffer-local shuffle (`LocalShuffleDataset`)

  Validity of the oracle for `localShuffle bs input choices finalPerm` with `1 ≤ bs`:
  * `∀ c ∈ choices, c < bs`                          — `rng.choice(buffer_size)` is `< buffer_size`;
  * `input.length + 1 - bs ≤ choices.length`         — the stream is long enough: the loop pops once
    for every example consumed while the buffer is full, i.e. `input.length - (bs - 1)` times
    (truncated subtraction);
  * `finalPerm.Perm (List.range (min input.length (bs - 1)))` — `rng.shuffle(buffer)` permutes the
    buffer left at the end, which holds `min input.length (bs - 1)` examples. -/

/-- C12 (loop invariant, general form).  Start the loop with `buf.length ≤ bs - 1` examples in
    the buffer and a valid oracle: what is emitted together with the buffer left is a permutation of
    `buf ++ xs`, and both lengths are determined.  (The hypothesis `buf.length ≤ bs - 1` is
    re-established for every recursive call: between iterations the buffer never exceeds `bs - 1`
    examples.) -/
theorem C12_local_loop_inv {α} {bs : Nat} (hbs : 1 ≤ bs) (xs buf : List α) (choices : List Nat)
    (hbuf : buf.length ≤ bs - 1) (hcs : ∀ c ∈ choices, c < bs)
    (hlen : buf.length + xs.length - (bs - 1) ≤ choices.length) :
    ((localLoop bs xs buf choices).1 ++ (localLoop bs xs buf choices).2).Perm (buf ++ xs) ∧
    (localLoop bs xs buf choices).1.length = buf.length + xs.length - (bs - 1) ∧
    (localLoop bs xs buf choices).2.length = min (buf.length + xs.length) (bs - 1) := by
  obtain ⟨b, rfl⟩ := Nat.exists_eq_add_of_le' hbs
  rw [Nat.add_sub_cancel] at hbuf hlen ⊢
  have ⟨hp, hr⟩ := localLoop_perm_rest b xs buf choices hbuf hcs (Nat.sub_le_iff_le_add.1 hlen)
  refine ⟨hp, ?_, hr⟩
  -- emitted + left = consumed
  have := hp.length_eq
  rw [List.length_append, List.length_append, hr] at this
  rw [Nat.sub_eq_sub_min]; exact Nat.eq_sub_of_add_eq this

theorem Shuffle.localLoop_valid_nil {α} {bs : Nat} (hbs : 1 ≤ bs) {input : List α} {cs : List Nat}
    (hcs : ∀ c ∈ cs, c < bs) (hlen : input.length + 1 - bs ≤ cs.length) :
    ((localLoop bs input [] cs).1 ++ (localLoop bs input [] cs).2).Perm input ∧
    (localLoop bs input [] cs).1.length = input.length + 1 - bs ∧
    (localLoop bs input [] cs).2.length = min input.length (bs - 1) := by
  have := C12_local_loop_inv hbs input [] cs (Nat.zero_le _) hcs
  obtain ⟨b, rfl⟩ := Nat.exists_eq_add_of_le' hbs
  rw [List.length_nil, Nat.zero_add, Nat.add_sub_cancel] at this
  rw [Nat.add_sub_add_right] at hlen ⊢
  exact this hlen

example : localLoop 3 [10, 11, 12] [1, 2] [0, 2, 1] = ([1, 11, 10], [2, 12]) := by decide +kernel

/-- C12 (buffer bound).  The buffer left by the loop holds `min input.length (bs - 1)`
    examples, hence at most `bs - 1`. -/
theorem C12_local_buffer_bound {α} {bs : Nat} (hbs : 1 ≤ bs) {input : List α} {choices : List Nat}
    (hcs : ∀ c ∈ choices, c < bs) (hlen : input.length + 1 - bs ≤ choices.length) :
    (localLoop bs input [] choices).2.length = min input.length (bs - 1) ∧
    (localLoop bs input [] choices).2.length ≤ bs - 1 := by
  have := (localLoop_valid_nil hbs (input := input) hcs hlen).2.2
  exact ⟨this, this ▸ Nat.min_le_right ..⟩

/-- C12 (number of emitted examples).  The loop emits `input.length - (bs - 1)` examples. -/
theorem C12_local_emitted_count {α} {bs : Nat} (hbs : 1 ≤ bs) {input : List α}
    {choices : List Nat} (hcs : ∀ c ∈ choices, c < bs)
    (hlen : input.length + 1 - bs ≤ choices.length) :
    (localLoop bs input [] choices).1.length = input.length + 1 - bs :=
  (localLoop_valid_nil hbs hcs hlen).2.1

/-- C12 (emitted ++ buffer).  What the loop emitted together with the buffer it leaves is a
    permutation of the input. -/
theorem C12_local_loop_perm {α} {bs : Nat} (hbs : 1 ≤ bs) {input : List α} {choices : List Nat}
    (hcs : ∀ c ∈ choices, c < bs) (hlen : input.length + 1 - bs ≤ choices.length) :
    ((localLoop bs input [] choices).1 ++ (localLoop bs input [] choices).2).Perm input :=
  (localLoop_valid_nil hbs hcs hlen).1

example : localLoop 3 ["a", "b", "c", "d", "e"] [] [2, 0, 1] = (["c", "a", "d"], ["b", "e"]) := by
  decide +kernel
example : (localLoop 3 ["a", "b", "c", "d", "e"] [] [2, 0, 1]).2.length = 2 :=
  (C12_local_buffer_bound (by decide +kernel) (by decide +kernel) (by decide +kernel)).1
example : (localLoop 3 ["a", "b", "c", "d", "e"] [] [2, 0, 1]).1.length = 3 :=
  C12_local_emitted_count (by decide +kernel) (by decide +kernel) (by decide +kernel)

/-- C12 (buffer-local shuffle).  With a valid oracle the buffer-local shuffle yields every
    input example exactly once. -/
theorem C12_local_perm {α} {bs : Nat} (hbs : 1 ≤ bs) {input : List α}
    {choices finalPerm : List Nat} (hcs : ∀ c ∈ choices, c < bs)
    (hlen : input.length + 1 - bs ≤ choices.length)
    (hfp : finalPerm.Perm (List.range (min input.length (bs - 1)))) :
    (localShuffle bs input choices finalPerm).Perm input :=
  have h := localLoop_valid_nil hbs (input := input) hcs hlen
  (List.Perm.append_left _ (applyPerm_perm (by rwa [h.2.2]))).trans h.1

example : (localShuffle 3 ["a", "b", "c", "d", "e"] [2, 0, 1] [1, 0]).Perm
    ["a", "b", "c", "d", "e"] :=
  C12_local_perm (by decide +kernel) (by decide +kernel) (by decide +kernel) (by decide +kernel)
example : localShuffle 3 ["a", "b", "c", "d", "e"] [2, 0, 1] [1, 0] = ["c", "a", "d", "e", "b"] := by
  decide +kernel
/-- fewer examples than `buffer_size - 1`: nothing is popped, only the final shuffle acts -/
example : (localShuffle 5 ["a", "b"] [] [1, 0]).Perm ["a", "b"] :=
  C12_local_perm (by decide +kernel) (by decide +kernel) (by decide +kernel) (by decide +kernel)

/-- C12 (bounded displacement).  Tag every example with its source position
    (`input.zipIdx`).  The example at output position `j` has a source position `p ≤ j + (bs - 1)`:
    the buffer-local shuffle never emits an example more than `buffer_size - 1` positions before
    its source position.

    This holds for EVERY oracle value (no validity hypothesis on `choices` / `finalPerm` is needed:
    in the model an invalid oracle only truncates the emitted list), so it is stated with the
    single hypothesis `1 ≤ bs`; it is in particular true under the validity hypotheses of
    `C12_local_perm`. -/
theorem C12_local_displacement {α} {bs : Nat} (hbs : 1 ≤ bs) (input : List α)
    (choices finalPerm : List Nat) :
    ∀ j p x, (localShuffle bs input.zipIdx choices finalPerm)[j]? = some (x, p) →
      p ≤ j + (bs - 1) := by
  obtain ⟨b, rfl⟩ := Nat.exists_eq_add_of_le' hbs
  intro j p x h
  have key := localLoop_displacement (fun y : α × Nat => y.2) b input.zipIdx [] choices 0
    (Nat.zero_le _) nofun (fun i y hi => by
      rw [List.getElem?_zipIdx] at hi
      obtain ⟨a, _, rfl⟩ := Option.map_eq_some_iff.1 hi
      exact Nat.le_refl _)
  simp only [Nat.zero_add] at key
  rcases Nat.lt_or_ge j (localLoop (b + 1) input.zipIdx [] choices).1.length with hj | hj
  · exact key.1 j _ ((List.getElem?_append_left hj).symm.trans h)
  · rw [localShuffle_eq, List.getElem?_append_right hj] at h
    exact Nat.le_trans (key.2 _ (mem_of_mem_applyPerm (List.mem_of_getElem? h)))
      (Nat.add_le_add_right hj _)

example : localShuffle 3 ["a", "b", "c", "d", "e"].zipIdx [2, 0, 1] [1, 0]
    = [("c", 2), ("a", 0), ("d", 3), ("e", 4), ("b", 1)] := by decide +kernel
/-- `"c"` (source position 2) is emitted at position 0: exactly `bs - 1 = 2` positions early -/
example : (2 : Nat) ≤ 0 + (3 - 1) :=
  C12_local_displacement (bs := 3) (by decide +kernel) ["a", "b", "c", "d", "e"] [2, 0, 1] [1, 0] 0 2 "c"
    (by decide +kernel)

/-! ### `ReShuffleDataset`: one shared array, shuffled in place by every `start` / `freeze` -/

/-- C12 (array invariant).  Along every run in which every drawn `π` is a permutation of
    `range n`, the shared array is a permutation of `range n` (stated from any state satisfying
    the invariant, and from the initial state). -/
theorem C12_arr_perm_inv {n : Nat} {s : RState} {ops : List ROp}
    (hs : s.arr.Perm (List.range n))
    (hops : ∀ op ∈ ops, ∀ π, op = .start π ∨ op = .freeze π → π.Perm (List.range n)) :
    (rrun s ops).1.arr.Perm (List.range n) :=
  rrun_isRun.inv (P := fun s => s.arr.Perm (List.range n))
    (fun _ op hop h => rstep_arr_perm h (hops op hop)) hs

theorem C12_arr_perm_inv_init {n : Nat} {ops : List ROp}
    (hops : ∀ op ∈ ops, ∀ π, op = .start π ∨ op = .freeze π → π.Perm (List.range n)) :
    (rrun (rinit n) ops).1.arr.Perm (List.range n) :=
  C12_arr_perm_inv (List.Perm.refl _) hops

example : (rrun (rinit 3) [.start [1, 2, 0], .next 0, .freeze [2, 1, 0], .start [1, 2, 0]]).1.arr
    = [2, 1, 0] := by decide +kernel
example : (rrun (rinit 3) [.start [1, 2, 0], .next 0, .freeze [2, 1, 0], .start [1, 2, 0]]).1.arr.Perm
    (List.range 3) :=
  C12_arr_perm_inv_init (by
    intro op hop π h
    simp only [List.mem_cons, List.not_mem_nil, or_false] at hop
    rcases hop with rfl | rfl | rfl | rfl <;> rcases h with h | h <;> cases h <;> decide +kernel)

/-- C12 (re-shuffle, isolated iteration) — the strongest true variant.
    History: `pre`, then `start π` creates iterator `it`, then `post`, which contains only `next`
    operations (on any iterators, also older ones still in flight) — i.e. NO `start` / `freeze`
    happens while `it` is in progress.  All drawn permutations are valid.  Iterator `it` is advanced
    until it reports `stop`.  Then the values `it` received are a permutation of `range n`: every
    example exactly once.

    The unrestricted statement (arbitrary operations after `start π`) is FALSE in the model and in
    the library: see `C12_reshuffle_interleaved_counterexample`. -/
theorem C12_reshuffle_perm_partial {n it : Nat} {pre post : List ROp} {π : List Nat}
    (hvalid : ∀ op ∈ pre ++ [.start π], ∀ ρ, op = .start ρ ∨ op = .freeze ρ →
      ρ.Perm (List.range n))
    (hpost : ∀ op ∈ post, ∃ j, op = .next j)
    (hit : (rrun (rinit n) (pre ++ .start π :: post)).2[pre.length]? = some (.started it))
    (hstop : ∃ k : Nat, (pre ++ .start π :: post)[k]? = some (.next it) ∧
      (rrun (rinit n) (pre ++ .start π :: post)).2[k]? = some .stop) :
    (valuesOf it (pre ++ .start π :: post) (rrun (rinit n) (pre ++ .start π :: post)).2).Perm
      (List.range n) := by
  rw [rrun_isolated _ hpost hit hstop]
  exact applyPerm_range_perm (hvalid _ (by simp) π (.inl rfl))
    (C12_arr_perm_inv (List.Perm.refl _) (fun op hop => hvalid op (by simp [hop])))

/-- what the isolated iterator receives is exactly the array as its `start` left it -/
theorem C12_reshuffle_values_eq {n it : Nat} {pre post : List ROp} {π : List Nat}
    (hpost : ∀ op ∈ post, ∃ j, op = .next j)
    (hit : (rrun (rinit n) (pre ++ .start π :: post)).2[pre.length]? = some (.started it))
    (hstop : ∃ k : Nat, (pre ++ .start π :: post)[k]? = some (.next it) ∧
      (rrun (rinit n) (pre ++ .start π :: post)).2[k]? = some .stop) :
    valuesOf it (pre ++ .start π :: post) (rrun (rinit n) (pre ++ .start π :: post)).2 =
      applyPerm π (rrun (rinit n) pre).1.arr :=
  rrun_isolated _ hpost hit hstop

/-- two iterations one after the other (the first one abandoned after one example, and still
    advanced once while the second one runs): the second iterator sees a permutation -/
example : (valuesOf 1
    ([.start [1, 2, 0], .next 0] ++ .start [2, 0, 1] :: [.next 1, .next 0, .next 1, .next 1, .next 1])
    (rrun (rinit 3) ([.start [1, 2, 0], .next 0] ++
      .start [2, 0, 1] :: [.next 1, .next 0, .next 1, .next 1, .next 1])).2).Perm (List.range 3) :=
  C12_reshuffle_perm_partial
    (by
      intro op hop ρ h
      simp only [List.cons_append, List.nil_append, List.mem_cons, List.not_mem_nil, or_false]
        at hop
      rcases hop with rfl | rfl | rfl <;> rcases h with h | h <;> cases h <;> decide +kernel)
    (fun op hop =>
      let ⟨j, _, e⟩ := List.mem_map.1 (show op ∈ [1, 0, 1, 1, 1].map ROp.next from hop)
      ⟨j, e.symm⟩)
    (by decide +kernel)
    ⟨7, rfl, by decide +kernel⟩
example : valuesOf 1
    ([.start [1, 2, 0], .next 0] ++ .start [2, 0, 1] :: [.next 1, .next 0, .next 1, .next 1, .next 1])
    (rrun (rinit 3) ([.start [1, 2, 0], .next 0] ++
      .start [2, 0, 1] :: [.next 1, .next 0, .next 1, .next 1, .next 1])).2 = [0, 1, 2] := by decide +kernel

/-- C12 (re-shuffle, interleaved iterations) — known finding F10.  `n = 3`, two iterators: the
    second `start` happens after iterator `0` took one example; it reshuffles in place the array
    iterator `0` is walking.  Iterator `0` receives `[1, 0, 1]`: example `1` twice, example `2`
    never — NOT a permutation of `[0, 1, 2]`.  (The second iterator, started last, is fine.) -/
theorem C12_reshuffle_interleaved_counterexample :
    let ops : List ROp := [.start [1, 2, 0], .next 0, .start [1, 2, 0], .next 0, .next 0, .next 0,
      .next 1, .next 1, .next 1, .next 1]
    let outs := (rrun (rinit 3) ops).2
    outs = [.started 0, .val 1, .started 1, .val 0, .val 1, .stop,
      .val 2, .val 0, .val 1, .stop] ∧
    valuesOf 0 ops outs = [1, 0, 1] ∧
    ¬ (valuesOf 0 ops outs).Perm (List.range 3) ∧
    ¬ (valuesOf 0 ops outs).Nodup ∧
    2 ∉ valuesOf 0 ops outs ∧
    (valuesOf 1 ops outs).Perm (List.range 3) := by
  decide +kernel

/-- C12 (frozen copy).  `copy(freeze=True)` shuffles the shared array and returns a snapshot
    `a` of it.  Under the array invariant and for a valid `π` the snapshot is a permutation of
    `range n`, and it equals the array at that moment.  The snapshot is returned BY VALUE (it is a
    component of the output, not of the state): no later operation can change it — immunity against
    later `start`s holds by construction of the model, mirroring the fancy-indexing copy
    `self.input_dataset[self._permutation]` the library takes. -/
theorem C12_frozen_copy_snapshot {n : Nat} {s s' : RState} {π a : List Nat}
    (hs : s.arr.Perm (List.range n)) (hπ : π.Perm (List.range n))
    (h : rstep s (.freeze π) = (s', .frozen a)) :
    a.Perm (List.range n) ∧ s'.arr = a := by
  cases h
  exact ⟨applyPerm_range_perm hπ hs, rfl⟩

/-- C12 (frozen copy, along a run).  In every run from the initial state with valid
    permutations, every snapshot reported is a permutation of `range n`. -/
theorem C12_frozen_copy_snapshot_run {n : Nat} {ops : List ROp} {a : List Nat}
    (hops : ∀ op ∈ ops, ∀ π, op = .start π ∨ op = .freeze π → π.Perm (List.range n))
    (ha : ROut.frozen a ∈ (rrun (rinit n) ops).2) : a.Perm (List.range n) :=
  rrun_frozen_perm (List.Perm.refl _) hops ha

/-- the snapshot `[1, 2, 0]` is taken, then a `start` reshuffles the shared array to `[2, 0, 1]`;
    the reported snapshot is what it was -/
example : rrun (rinit 3) [.freeze [1, 2, 0], .start [1, 2, 0], .next 0]
    = ({ arr := [2, 0, 1], pos := [1] }, [.frozen [1, 2, 0], .started 0, .val 2]) := rfl
example : ([1, 2, 0] : List Nat).Perm (List.range 3) ∧
    (rstep (rinit 3) (.freeze [1, 2, 0])).1.arr = [1, 2, 0] :=
  C12_frozen_copy_snapshot (s := rinit 3) (List.Perm.refl _) (by decide +kernel) rfl

end LazyDs
