import LazyDs.Lemmas.ShardSort
import LazyDs.Lemmas.ListAux
import LazyDs.Lemmas.Res
/-
  C15: `split(k)` / `shard(k, i)` partition the dataset.

  `sectionIdx n k i` is the `i`-th section of `np.array_split(np.arange(n), k)`; `mkSplit`
  slices the dataset by these sections.
-/
namespace LazyDs
open LazyDs.ShardSort

/-! ### the index arithmetic of `np.array_split` -/

theorem C15_start_zero (n k : Nat) : sectionStart n k 0 = 0 :=
  sectionStart_zero n k

example : sectionStart 10 3 0 = 0 := by decide +kernel

theorem C15_start_last (n k : Nat) (hk : 1 ≤ k) : sectionStart n k k = n :=
  sectionStart_last n k hk

example : sectionStart 10 3 3 = 10 := by decide +kernel

theorem C15_start_mono (n k i j : Nat) (h : i ≤ j) : sectionStart n k i ≤ sectionStart n k j :=
  sectionStart_mono n k h

example : (List.range 5).map (sectionStart 10 4) = [0, 3, 6, 8, 10] := by decide +kernel

/-- The `i`-th of `k` shards of `n` examples has `n / k` examples, plus one if `i < n % k`.
    (`_hk`, `_hi`, and `_hj` below, are not needed by the proofs: the arithmetic holds for every
    `k`, `i`.  The statements carry them because property C15 speaks of the shards `i < k` of a
    split into `1 ≤ k` parts.) -/
theorem C15_section_length (n k i : Nat) (_hk : 1 ≤ k) (_hi : i < k) :
    (sectionIdx n k i).length = n / k + (if i < n % k then 1 else 0) :=
  sectionIdx_length n k i

example : (List.range 4).map (fun i => (sectionIdx 10 4 i).length) = [3, 3, 2, 2] := by decide +kernel

/-- Shard sizes differ by at most one. -/
theorem C15_sizes_differ_by_one (n k i j : Nat) (_hk : 1 ≤ k) (_hi : i < k) (_hj : j < k) :
    (sectionIdx n k i).length ≤ (sectionIdx n k j).length + 1 := by
  rw [sectionIdx_length, sectionIdx_length]
  split <;> omega

example : (sectionIdx 10 4 0).length ≤ (sectionIdx 10 4 3).length + 1 := by decide +kernel

/-- Each shard is a contiguous increasing run of indices starting at `sectionStart n k i`. -/
theorem C15_section_eq_range (n k i : Nat) :
    sectionIdx n k i = List.range' (sectionStart n k i) (sectionIdx n k i).length := by
  rw [sectionIdx_eq_range' n k i, List.length_range']

example : sectionIdx 10 4 2 = List.range' 6 2 := by decide +kernel

/-- Concatenating the shards in shard order reproduces `0, …, n-1`: the shards are pairwise
    disjoint, cover every example exactly once and keep the order. -/
theorem C15_sections_concat (n k : Nat) (hk : 1 ≤ k) :
    ((List.range k).map (sectionIdx n k)).flatten = List.range n := by
  rw [List.map_congr_left (fun i _ => sectionIdx_eq_range' n k i),
    flatten_runs (sectionStart n k) (sectionStart_mono n k) k,
    sectionStart_zero, sectionStart_last n k hk, List.range_eq_range', Nat.sub_zero]

example : (List.range 3).map (sectionIdx 10 3) = [[0, 1, 2, 3], [4, 5, 6], [7, 8, 9]] := by decide +kernel
example : ((List.range 3).map (sectionIdx 10 3)).flatten = List.range 10 := by decide +kernel

/-- Every index of an earlier shard is smaller than every index of a later shard. -/
theorem C15_sections_disjoint (n k i j : Nat) (_hk : 1 ≤ k) (hij : i < j) (_hj : j < k) :
    ∀ x ∈ sectionIdx n k i, ∀ y ∈ sectionIdx n k j, x < y := fun _ hx _ hy =>
  Nat.lt_of_lt_of_le (mem_sectionIdx.mp hx).2
    (Nat.le_trans (sectionStart_mono n k hij) (mem_sectionIdx.mp hy).1)

example : ∀ x ∈ sectionIdx 10 3 0, ∀ y ∈ sectionIdx 10 3 2, x < y := by decide +kernel

/-- With at most as many shards as examples no shard is empty. -/
theorem C15_nonempty_when_k_le_n (n k i : Nat) (hk : 1 ≤ k) (hkn : k ≤ n) (_hi : i < k) :
    sectionIdx n k i ≠ [] := by
  intro h
  have hl := sectionIdx_length n k i
  rw [h] at hl
  exact Nat.ne_of_lt (Nat.lt_of_lt_of_le (Nat.div_pos hkn hk) (Nat.le_add_right ..)) hl

example : ∀ i, i < 4 → sectionIdx 4 4 i ≠ [] := by decide +kernel

/-! ### `Dataset.split` / `Dataset.shard` -/

/-- `split(k)` raises `ValueError` for `k < 1` and for `k > len(ds)`. -/
theorem C15_reject (d : DS) (n : Nat) (k : Int) (hn : d.len = .ok n)
    (hk : k < 1 ∨ k > (n : Int)) : mkSplit k d = .error .valueError := by
  rw [mkSplit_eq, hn]
  by_cases h1 : k < 1
  · exact if_pos h1
  · exact (if_neg h1).trans (if_pos (hk.resolve_left h1))

example : (mkSplit 0 (listSrc [.int 0, .int 1])).map (·.length) = .error .valueError
    ∧ (mkSplit 3 (listSrc [.int 0, .int 1])).map (·.length) = .error .valueError
    ∧ (mkSplit 2 (listSrc [.int 0, .int 1])).map (·.length) = .ok 2 := by
  refine ⟨?_, ?_, ?_⟩ <;> rfl

/-- `split(k)` returns exactly `k` parts whenever it returns. -/
theorem C15_split_count (d : DS) (k : Int) (parts : List DS) (h : mkSplit k d = .ok parts) :
    parts.length = k.toNat := by
  rw [mkSplit_eq, ite_error_eq_ok, bind_eq_ok] at h
  obtain ⟨_, n, _, h⟩ := h
  rw [List.mapM_ok_length (ite_error_eq_ok.1 h).2, List.length_range]

example : (mkSplit 3 (listSrc [.int 0, .int 1, .int 2, .int 3, .int 4, .int 5, .int 6])).map
    (·.length) = .ok 3 := by rfl

/-- On an indexable dataset with `1 ≤ k ≤ len(ds)`, `split(k)` succeeds and the `i`-th part is
    literally the `SliceDataset` selecting the `i`-th section of `np.array_split`. -/
theorem C15_split_parts (d : DS) (n : Nat) (k : Int)
    (hix : d.indexable = true) (hg : d.sliceGuard = .ok ()) (hn : d.len = .ok n)
    (hk1 : 1 ≤ k) (hkn : k ≤ (n : Int)) :
    mkSplit k d
      = .ok ((List.range k.toNat).map (fun i => sliceDS (sectionIdx n k.toNat i) d)) := by
  rw [mkSplit_eq, if_neg (Int.not_lt.2 hk1), hn]
  refine (if_neg (Int.not_lt.2 hkn)).trans (List.mapM_ok_of_forall fun i hi => ?_)
  have hi' : i < k.toNat := List.mem_range.mp hi
  exact mkSlice_idx_ok d n _ hix hg hn (sectionIdx_lt (Nat.zero_lt_of_lt hi') hi')

example : (mkSplit 3 (listSrc [.int 0, .int 1, .int 2, .int 3, .int 4, .int 5, .int 6])).map
    (·.map (·.len)) = .ok [.ok 3, .ok 2, .ok 2] := by rfl

/-- `shard(k, i)` is `split(k)[i]`. -/
theorem C15_shard_eq_split (d : DS) (k i : Int) :
    mkShard k i d = (mkSplit k d >>= fun parts => pyIndex parts i) := rfl

example : (mkShard 3 (-1) (listSrc [.int 0, .int 1, .int 2, .int 3, .int 4, .int 5, .int 6])).map
    (·.len) = .ok (.ok 2) := by rfl

/-! ### each example in exactly one shard -/

/-- Every example belongs to exactly one shard: for every position `x < n` there is one and only
    one shard number `i < k` whose section contains `x`. -/
theorem C15_unique_shard (n k x : Nat) (hk : 1 ≤ k) (hx : x < n) :
    ∃ i, (i < k ∧ x ∈ sectionIdx n k i) ∧ ∀ j, (j < k ∧ x ∈ sectionIdx n k j) → j = i := by
  have hmem : x ∈ ((List.range k).map (sectionIdx n k)).flatten := by
    rw [C15_sections_concat n k hk]; exact List.mem_range.mpr hx
  obtain ⟨s, hs, hxs⟩ := List.mem_flatten.mp hmem
  obtain ⟨i, hi, rfl⟩ := List.mem_map.mp hs
  have hik : i < k := List.mem_range.mp hi
  refine ⟨i, ⟨hik, hxs⟩, ?_⟩
  rintro j ⟨hjk, hxj⟩
  rcases Nat.lt_trichotomy i j with h | h | h
  · exact absurd (C15_sections_disjoint n k i j hk h hjk x hxs x hxj) (Nat.lt_irrefl x)
  · exact h.symm
  · exact absurd (C15_sections_disjoint n k j i hk h hik x hxj x hxs) (Nat.lt_irrefl x)

/-- No shard contains a position outside the dataset, and no position twice. -/
theorem C15_section_in_range_nodup (n k i : Nat) (hk : 1 ≤ k) (hi : i < k) :
    (∀ x ∈ sectionIdx n k i, x < n) ∧ (sectionIdx n k i).Nodup :=
  ⟨sectionIdx_lt hk hi, by rw [C15_section_eq_range]; exact List.nodup_range'⟩

example : ∃ i, (i < 3 ∧ 5 ∈ sectionIdx 10 3 i) := ⟨1, by decide +kernel⟩

end LazyDs
