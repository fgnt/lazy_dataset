import LazyDs.Model.CopyCfg
import LazyDs.Props.C12
import LazyDs.Lemmas.Assoc
/-
  C13 — explicit seeds reproduce orders; frozen copies stay frozen; copies are faithful.
-/
namespace LazyDs
open CopyCfg

theorem copyParams_id (cls : String) (params : List (String × Param))
    (h : ∀ kv ∈ params, (forwarded cls).contains kv.1 = true) : copyParams cls params = params := by
  unfold copyParams
  induction params with
  | nil => rfl
  | cons kv rest ih =>
    simp only [List.map_cons]
    rw [ih (fun kv' hkv' => h kv' (List.mem_cons_of_mem _ hkv')), if_pos (h kv (List.mem_cons_self ..))]

mutual
/-- `copy()` preserves every configuration parameter of every stage of the pipeline.
    The content lies in the table `forwarded` (which parameters the `copy()` of each class passes
    on; the correspondence check compares it with the real classes) and in the hypothesis `Known`
    (the objects carry no other parameter).  Given these, `copyParams` maps the identity over the
    parameters (`copyParams_id`), and the theorem says `map id = id`. -/
theorem C13_copy_preserves_cfg : (c : Cfg) → Known c → copyCfg c = c
  | .node cls params inputs, h => by
    simp only [copyCfg]
    rw [copyParams_id cls params h.1, C13_copyList_preserves inputs h.2]
theorem C13_copyList_preserves : (cs : List Cfg) → KnownList cs → copyList cs = cs
  | [], _ => rfl
  | c :: cs, h => by
    simp only [copyList]
    rw [C13_copy_preserves_cfg c h.1, C13_copyList_preserves cs h.2]
end

/-- Sensitivity (defect F5): a `copy()` that does not forward `rng` replaces an explicit
    generator by the global one. -/
theorem C13_dropped_parameter_counterexample :
    (copyParams "ReShuffleDataset" [("rng", .rng (some 7))]).map
      (fun kv => if kv.1 == "rng" then (kv.1, defaultOf "ReShuffleDataset" "rng") else kv)
      = [("rng", .rng none)] := by decide +kernel

example : copyCfg (.node "BatchDataset" [("batch_size", .nat 3), ("drop_last", .bool true)]
      [.node "ReShuffleDataset" [("rng", .rng (some 7))] [.node "DictDataset" [("name", .str "x")] []]])
    = .node "BatchDataset" [("batch_size", .nat 3), ("drop_last", .bool true)]
      [.node "ReShuffleDataset" [("rng", .rng (some 7))] [.node "DictDataset" [("name", .str "x")] []]] :=
  -- every parameter of the three objects is one its class forwards
  C13_copy_preserves_cfg _
    ⟨by decide +kernel, ⟨by decide +kernel, ⟨by decide +kernel, trivial⟩, trivial⟩, trivial⟩

theorem getState_explicit (s : Store) (id : Nat) :
    getState s (.explicit id) = (Assoc.lookup s.explicit id).getD 0 := rfl

theorem setState_explicit (s : Store) (id v : Nat) :
    setState s (.explicit id) v = { s with explicit := Assoc.set s.explicit id v } := by
  rw [setState, Assoc.set, Assoc.lookup, Option.isSome_map]
  split <;> rfl

theorem getState_setState_other (s : Store) (h h' : Holder) (v : Nat) (hne : h ≠ h') :
    getState (setState s h v) h' = getState s h' := by
  cases h with
  | global_ =>
    cases h' with
    | global_ => exact absurd rfl hne
    | explicit id' => rfl
  | explicit id =>
    rw [setState_explicit]
    cases h' with
    | global_ => rfl
    | explicit id' =>
      rw [getState_explicit, getState_explicit, Assoc.lookup_set, if_neg fun e => hne (by rw [eq_of_beq e])]

theorem epoch_explicit (g : GenSpec) (n : Nat) (stages : List Holder)
    (hno : ∀ h ∈ stages, h ≠ .global_) (s₁ s₂ : Store) (he : s₁.explicit = s₂.explicit) :
    (epoch g n stages s₁).1 = (epoch g n stages s₂).1 ∧
    (epoch g n stages s₁).2.explicit = (epoch g n stages s₂).2.explicit := by
  induction stages generalizing s₁ s₂ with
  | nil => exact ⟨rfl, he⟩
  | cons h hs ih =>
    cases h with
    | global_ => exact absurd rfl (hno _ (List.mem_cons_self ..))
    | explicit id =>
      have hg : getState s₁ (.explicit id) = getState s₂ (.explicit id) := by
        rw [getState_explicit, getState_explicit, he]
      have := ih (fun h' hh' => hno h' (List.mem_cons_of_mem _ hh'))
        (setState s₁ (.explicit id) (g.draw (getState s₁ (.explicit id)) n).2)
        (setState s₂ (.explicit id) (g.draw (getState s₂ (.explicit id)) n).2)
        (by rw [setState_explicit, setState_explicit, he, hg])
      simp only [epoch]
      exact ⟨by rw [this.1, hg], this.2⟩

/-- The global state does not influence a pipeline none of whose stages holds the global generator:
    per epoch … -/
theorem C13_epoch_global_independent (g : GenSpec) (n : Nat) (stages : List Holder)
    (hno : ∀ h ∈ stages, h ≠ .global_) (s : Store) (z : Nat) :
    (epoch g n stages { s with global_ := z }).1 = (epoch g n stages s).1 ∧
    (epoch g n stages { s with global_ := z }).2.explicit = (epoch g n stages s).2.explicit :=
  epoch_explicit g n stages hno _ _ rfl

/-- … and over any number of epochs, whatever the environment writes into the global state between
    epochs (`noise₁`, `noise₂`): two identically built pipelines with equally seeded generators
    produce identical orders in every epoch. -/
theorem C13_seed_determinism (g : GenSpec) (n : Nat) (stages : List Holder)
    (hno : ∀ h ∈ stages, h ≠ .global_) :
    ∀ (noise₁ noise₂ : List Nat) (s₁ s₂ : Store), noise₁.length = noise₂.length →
      s₁.explicit = s₂.explicit → epochs g n stages noise₁ s₁ = epochs g n stages noise₂ s₂
  | [], [], _, _, _, _ => rfl
  | z₁ :: zs₁, z₂ :: zs₂, s₁, s₂, hl, he => by
    have := epoch_explicit g n stages hno { s₁ with global_ := z₁ } { s₂ with global_ := z₂ } he
    simp only [epochs]
    rw [this.1, C13_seed_determinism g n stages hno zs₁ zs₂ _ _ (Nat.succ.inj hl) this.2]

/-- A one-time shuffle and a frozen copy of a per-epoch reshuffle iterate in one fixed order forever:
    the order is a VALUE chosen at construction (`C12_frozen_copy_snapshot`: a permutation, returned by
    value), so every later epoch reads the same list. -/
theorem C13_frozen_fixed (s : Shuffle.RState) (π : List Nat) (n : Nat) (hs : s.arr.Perm (List.range n))
    (hπ : π.Perm (List.range n)) (s' : Shuffle.RState) (a : List Nat)
    (h : Shuffle.rstep s (.freeze π) = (s', .frozen a)) : a.Perm (List.range n) :=
  (C12_frozen_copy_snapshot hs hπ h).1

end LazyDs
