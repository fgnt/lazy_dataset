import LazyDs.Model.Stage
/-
  C01 (cycle) — the first `k` examples of a cycled dataset (`itertools.islice(ds.cycle(), k)`,
  modelled by `cycleTake`) are what the eager list semantics says, for every `k`:
  the `k`-prefix of the endless repetition of the input's iteration.

  `cycleTake s fuel k` : `s` is one iteration of the input, `k` the number of examples asked for,
  `fuel` bounds the number of passes; the driver calls it as `cycleTake d.iter (k + 1) k`.
-/
namespace LazyDs

private theorem flatten_replicate_succ {α} (m : Nat) (l : List α) :
    (List.replicate (m + 1) l).flatten = l ++ (List.replicate m l).flatten := rfl

private theorem length_flatten_replicate {α} (m : Nat) (l : List α) :
    ((List.replicate m l).flatten).length = m * l.length := by
  rw [List.length_flatten, List.map_replicate, List.sum_replicate_nat]

theorem getElem?_flatten_replicate {α} (l : List α) (m t : Nat) (h : t < m * l.length) :
    ((List.replicate m l).flatten)[t]? = l[t % l.length]? := by
  induction m generalizing t with
  | zero => simp at h
  | succ m ih =>
    rw [flatten_replicate_succ]
    by_cases ht : t < l.length
    · rw [List.getElem?_append_left ht, Nat.mod_eq_of_lt ht]
    · have hle : l.length ≤ t := Nat.le_of_not_lt ht
      rw [List.getElem?_append_right hle, ih (t - l.length) (by rw [Nat.succ_mul] at h; omega),
        Nat.mod_eq_sub_mod hle]

private theorem lt_div_succ_mul (k n : Nat) (hn : 0 < n) : k < (k / n + 1) * n := by
  have := Nat.lt_mul_div_succ k hn
  rw [Nat.mul_comm]; exact this

/-- Against any number `m` of laid-out periods that cover `k`; one unit of fuel per started period.
    With `m` free the induction needs no division, and two calls are compared on one layout. -/
theorem cycleTake_closed (s : Stream Val) (he : s.err = none) (hne : s.vals ≠ []) :
    ∀ (fuel k m : Nat), k ≤ fuel * s.vals.length → k ≤ m * s.vals.length →
      cycleTake s fuel k = ⟨((List.replicate m s.vals).flatten).take k, none⟩
  | 0, k, m, hk, _ => by
    cases Nat.le_zero.1 (Nat.zero_mul _ ▸ hk)
    rfl
  | fuel + 1, k, 0, _, hm => by
    cases Nat.le_zero.1 (Nat.zero_mul _ ▸ hm)
    rfl
  | fuel + 1, k, m + 1, hk, hm => by
    rw [cycleTake, flatten_replicate_succ]
    by_cases hkn : k ≤ s.vals.length
    · rw [if_pos hkn, List.take_append_of_le_length hkn]
    · -- one period is yielded, the rest is the call with one unit of fuel and one period less
      rw [Nat.succ_mul] at hk hm
      rw [if_neg hkn, he]
      rw [if_neg (by rw [List.isEmpty_iff]; exact hne),
        cycleTake_closed s he hne fuel _ m (Nat.sub_le_of_le_add hk) (Nat.sub_le_of_le_add hm), List.take_append,
        List.take_of_length_le (Nat.le_of_not_le hkn)]

/-- the driver's bound `k < fuel` -/
theorem cycleTake_of_lt (s : Stream Val) {k fuel : Nat} (he : s.err = none) (hne : s.vals ≠ []) (hf : k < fuel)
    {m : Nat} (hm : k ≤ m * s.vals.length) :
    cycleTake s fuel k = ⟨((List.replicate m s.vals).flatten).take k, none⟩ :=
  cycleTake_closed s he hne fuel k m
    (Nat.le_trans (Nat.le_of_lt hf) (Nat.le_mul_of_pos_right fuel (List.length_pos_iff.mpr hne))) hm

/-- Closed form: the first `k` examples of the cycled dataset are the `k`-prefix of the input's
    iteration repeated `k / n + 1` times.  Covers the driver's call `cycleTake d.iter (k + 1) k`. -/
theorem C01_cycle_closed (s : Stream Val) (k fuel : Nat) (he : s.err = none) (hne : s.vals ≠ [])
    (hf : k < fuel) :
    cycleTake s fuel k =
      ⟨((List.replicate (k / s.vals.length + 1) s.vals).flatten).take k, none⟩ :=
  cycleTake_of_lt s he hne hf (Nat.le_of_lt (lt_div_succ_mul k _ (List.length_pos_iff.mpr hne)))

theorem C01_cycle_closed_vals (s : Stream Val) (k fuel : Nat) (he : s.err = none)
    (hne : s.vals ≠ []) (hf : k < fuel) :
    (cycleTake s fuel k).vals =
      ((List.replicate (k / s.vals.length + 1) s.vals).flatten).take k := by
  rw [C01_cycle_closed s k fuel he hne hf]

/-- The first `k` examples of a cycled dataset: no error, exactly `k` of them, and the `t`-th is
    the `(t mod n)`-th example of the input. -/
theorem C01_cycle_prefix (s : Stream Val) (k fuel : Nat) (he : s.err = none) (hne : s.vals ≠ [])
    (hf : k < fuel) :
    (cycleTake s fuel k).err = none ∧ (cycleTake s fuel k).vals.length = k ∧
      ∀ t, t < k → (cycleTake s fuel k).vals[t]? = s.vals[t % s.vals.length]? := by
  have hn : 0 < s.vals.length := List.length_pos_iff.mpr hne
  have hlt := lt_div_succ_mul k s.vals.length hn
  rw [C01_cycle_closed s k fuel he hne hf]
  refine ⟨rfl, ?_, ?_⟩
  · show (List.take k _).length = k
    rw [List.length_take, length_flatten_replicate]
    exact Nat.min_eq_left (Nat.le_of_lt hlt)
  · intro t ht
    rw [List.getElem?_take_of_lt ht]
    exact getElem?_flatten_replicate s.vals _ t (Nat.lt_trans ht hlt)

/-- The same with total indexing. -/
theorem C01_cycle_getElem (s : Stream Val) (k fuel : Nat) (he : s.err = none) (hne : s.vals ≠ [])
    (hf : k < fuel) (t : Nat) (ht : t < k) :
    (cycleTake s fuel k).vals[t]? =
      some (s.vals[t % s.vals.length]'(Nat.mod_lt _ (List.length_pos_iff.mpr hne))) := by
  rw [(C01_cycle_prefix s k fuel he hne hf).2.2 t ht, List.getElem?_eq_getElem]

/-- A failing input ends the cycle at its first failure, exactly like one pass over the input. -/
theorem C01_cycle_failing (s : Stream Val) (k fuel : Nat) (e : Err) (he : s.err = some e)
    (hf : 0 < fuel) :
    cycleTake s fuel k =
      if k ≤ s.vals.length then ⟨s.vals.take k, none⟩ else ⟨s.vals, some e⟩ := by
  obtain ⟨fuel, rfl⟩ := Nat.exists_eq_succ_of_ne_zero (Nat.ne_of_gt hf)
  simp only [cycleTake, he]

/-- `islice` of a longer prefix extends the shorter one. -/
theorem C01_cycle_mono (s : Stream Val) (k k' fuel fuel' : Nat) (he : s.err = none)
    (hne : s.vals ≠ []) (hkk : k ≤ k') (hf : k < fuel) (hf' : k' < fuel') :
    (cycleTake s fuel k).vals = (cycleTake s fuel' k').vals.take k ∧
      (cycleTake s fuel k).err = (cycleTake s fuel' k').err := by
  have hm := Nat.le_of_lt (lt_div_succ_mul k' _ (List.length_pos_iff.mpr hne))
  rw [cycleTake_of_lt s he hne hf (Nat.le_trans hkk hm), cycleTake_of_lt s he hne hf' hm]
  exact ⟨by rw [List.take_take, Nat.min_eq_left hkk], rfl⟩

/-- Any fuel above `k` gives the same result: the fuel only guards termination. -/
theorem C01_cycle_fuel_irrelevant (s : Stream Val) (k fuel fuel' : Nat) (he : s.err = none)
    (hne : s.vals ≠ []) (hf : k < fuel) (hf' : k < fuel') :
    cycleTake s fuel k = cycleTake s fuel' k := by
  rw [C01_cycle_closed s k fuel he hne hf, C01_cycle_closed s k fuel' he hne hf']

/-- What the driver computes: `cycleTake d.iter (k + 1) k`. -/
theorem C01_cycle_driver (s : Stream Val) (k : Nat) (he : s.err = none) (hne : s.vals ≠ []) :
    cycleTake s (k + 1) k =
      ⟨((List.replicate (k / s.vals.length + 1) s.vals).flatten).take k, none⟩ :=
  C01_cycle_closed s k (k + 1) he hne (Nat.lt_succ_self k)

/-- The bound `k < fuel` is not necessary; the sharp one is one unit of fuel per started period.
    With less fuel the result is cut short (so `hf` cannot be dropped): -/
example : (cycleTake ⟨[.int 1, .int 2], none⟩ 1 3).vals.length = 2 := rfl

example : (cycleTake ⟨[.int 1, .int 2, .int 3], none⟩ 8 7).vals
    = [.int 1, .int 2, .int 3, .int 1, .int 2, .int 3, .int 1] := rfl

example : (cycleTake ⟨[.int 1, .int 2, .int 3], none⟩ 8 7).err = none := rfl

example : (cycleTake ⟨[.int 1, .int 2, .int 3], some .valueError⟩ 8 7).vals
    = [.int 1, .int 2, .int 3] ∧
    (cycleTake ⟨[.int 1, .int 2, .int 3], some .valueError⟩ 8 7).err = some .valueError := ⟨rfl, rfl⟩

example : (cycleTake ⟨[.int 1, .int 2, .int 3], some .valueError⟩ 8 2).vals = [.int 1, .int 2] ∧
    (cycleTake ⟨[.int 1, .int 2, .int 3], some .valueError⟩ 8 2).err = none := ⟨rfl, rfl⟩

end LazyDs
