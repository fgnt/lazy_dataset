import LazyDs.Lemmas.CatchLemmas
/-
  C14: exception-based filtering drops exactly the failing examples.

  `ds.catch(E)` (`CatchExceptionDataset`, model `catchDS` / `catchOuts`, reference `Ref.catch_`)
  yields, in order, precisely the examples whose evaluation does not raise an exception of a class
  listed in `E` (subclasses included, `Err.isA`); an exception of any other class propagates
  unchanged at the position of the failing example.
-/
namespace LazyDs

/-! ### what `catch(E)` yields -/

/-- The yielded examples are, in order, precisely those whose evaluation does not raise a listed
    exception type: `catchOuts E` is the plain run (`Stream.ofOuts`: yield until the first failure,
    which is raised) of the outcomes that remain after deleting the failures that `except E`
    swallows.  So the first exception of another type is raised at its position and ends the
    iteration. -/
theorem C14_catchOuts_spec {α} (E : List Err) (l : List (Res α)) :
    catchOuts E l =
      Stream.ofOuts (l.filter (fun o => match o with | .error e => !e.isAny E | .ok _ => true)) := by
  induction l with
  | nil => rfl
  | cons o l ih =>
    rw [List.filter_cons]
    cases o with
    | ok v => rw [catchOuts_cons_ok, ih]; rfl
    | error e =>
      rw [catchOuts_cons_error, ih]
      show _ = Stream.ofOuts (if (!e.isAny E) = true then _ else _)
      cases e.isAny E <;> rfl

example : catchOuts [Err.userA] [.ok 1, .error .userB, .ok 2, .error .valueError, .ok 3]
    = (⟨[1, 2], some .valueError⟩ : Stream Nat) := rfl

example : [(.ok 1 : Res Nat), .error .userB, .ok 2, .error .valueError, .ok 3].filter
      (fun o => match o with | .error e => !e.isAny [Err.userA] | .ok _ => true)
    = [.ok 1, .ok 2, .error .valueError, .ok 3] := rfl

/-- If every failure is of a listed type, exactly the successful examples come out, in order, and
    nothing is raised. -/
theorem C14_catch_values {α} (E : List Err) (l : List (Res α))
    (h : ∀ o ∈ l, ∀ e, o = .error e → e.isAny E = true) :
    catchOuts E l = ⟨l.filterMap (fun o => match o with | .ok v => some v | .error _ => none), none⟩ := by
  induction l with
  | nil => rfl
  | cons o l ih =>
    have ih := ih fun o ho => h o (List.mem_cons_of_mem _ ho)
    cases o with
    | ok v => rw [catchOuts_cons_ok, ih]; rfl
    | error e => rw [catchOuts_cons_error, if_pos (h _ List.mem_cons_self e rfl), ih]; rfl

example : catchOuts [Err.userA, Err.lookupError] [.ok 1, .error .userB, .ok 2, .error .keyError, .ok 3]
    = (⟨[1, 2, 3], none⟩ : Stream Nat) := rfl

/-- `catchOuts` over a concatenation: the second part is only run if the first did not raise. -/
theorem C14_catch_append {α} (E : List Err) (a b : List (Res α)) :
    catchOuts E (a ++ b) = (catchOuts E a).append (catchOuts E b) := by
  simp only [C14_catchOuts_spec, List.filter_append, Stream.ofOuts_append]

example : (catchOuts [Err.userA] ([.ok 1, .error .userA] ++ [.ok 2]) : Stream Nat) = ⟨[1, 2], none⟩ := rfl

/-- An exception of another type propagates unchanged, at the position of the failing example:
    if the examples before it were evaluated without an uncaught exception, the iteration yields
    exactly what it yields for those examples and then raises `e`; nothing after it is evaluated. -/
theorem C14_other_propagates {α} (E : List Err) (l pre post : List (Res α)) (e : Err)
    (hl : l = pre ++ [.error e] ++ post) (he : e.isAny E = false)
    (hpre : (catchOuts E pre).err = none) :
    (catchOuts E l).err = some e ∧ (catchOuts E l).vals = (catchOuts E pre).vals := by
  subst hl
  rw [List.append_assoc, C14_catch_append, List.singleton_append, catchOuts_cons_error, he]
  simp only [Bool.false_eq_true, if_false, Stream.append, hpre, Stream.fail, List.append_nil, and_self]

example : (catchOuts [Err.userA] ([.ok 1, .error .userB, .ok 2] ++ [.error .typeError] ++ [.ok 3, .error .userA])
    : Stream Nat) = ⟨[1, 2], some .typeError⟩ := rfl

/-! ### in a pipeline: wherever upstream the exception originates -/

/-- For every admissible pipeline `p` (any chain of stages), the model of the lazy code for
    `p.catch(E)` iterates as `catchOuts E` of the positional outcomes `r.outs` of the reference of
    the WHOLE upstream pipeline: an example is dropped iff evaluating it through all upstream stages
    raises a listed exception, no matter which stage raises.  The same holds for iteration with keys
    (`items()`), where position `j` is paired with `keys[j]`. -/
theorem C14_catch_pipeline (ρ : Env) (hρ : EnvOK ρ) (E : List Err) (p : Pipeline)
    (ha : Adm ρ (.catch E p)) (d : DS) (hb : build ρ (.catch E p) = .ok d) :
    ∃ r, ref ρ p = .ok r ∧ d.iter = catchOuts E r.outs ∧
      (∀ ks, r.keys = .ok ks → d.iterK = catchOuts E ((List.range ks.length).map (fun (j : Nat) => (do
          let k ← pyIndex ks (j : Int)
          let v ← outAt r.outs (j : Int)
          .ok (k, v) : Res (String × Val))))) := by
  obtain ⟨r, hr, _, _, h1, h2⟩ := catch_pipeline ρ hρ E p ha d hb
  exact ⟨r, hr, h1, h2⟩

example (d : DS) (hb : build c14Env (c14Pipe [.userA]) = .ok d) :
    ∃ r, ref c14Env (.map .identity (.listSrc [.int 1, .int 2, .int 3])) = .ok r ∧
      d.iter = catchOuts [.userA] r.outs := by
  obtain ⟨r, h1, h2, _⟩ := C14_catch_pipeline c14Env c14Env_ok [.userA] _ (c14Pipe_adm _) d hb
  exact ⟨r, h1, h2⟩

example : (build c14Env (c14Pipe [.userA])).toOption.map (·.iter.vals.length) = some 2 := rfl

/-- With a key table upstream, the key iteration of `p.catch(E)` yields exactly the (key, value)
    pairs of the value iteration, and raises exactly when the value iteration does. -/
theorem C14_catch_keys_values (ρ : Env) (hρ : EnvOK ρ) (E : List Err) (p : Pipeline)
    (ha : Adm ρ (.catch E p)) (d : DS) (hb : build ρ (.catch E p) = .ok d)
    (r : RefDS) (hr : ref ρ p = .ok r) (ks : List String) (hks : r.keys = .ok ks) :
    d.iterK.vals.map (·.2) = d.iter.vals ∧ d.iterK.err = d.iter.err := by
  obtain ⟨r', hr', hwf, hi, h1, h2⟩ := catch_pipeline ρ hρ E p ha d hb
  rw [hr] at hr'
  injection hr' with hr'
  subst hr'
  have hkl := hwf.keysLen hi ks hks
  obtain ⟨a, b⟩ := catchOuts_pairOuts E ks r.outs hkl
  rw [h1, h2 ks hks, hkl, keyedRange_eq ks r.outs hkl]
  exact ⟨b, a⟩

example :
    let d := catchDS [.userA] (mapDS (c14Env.fn .identity) (dictSrc [("a", .int 1), ("b", .int 2), ("c", .int 3)]))
    d.iterK.vals.map (·.1) = ["a", "c"] ∧ d.iterK.vals.length = d.iter.vals.length ∧ d.iterK.err = none := by
  decide +kernel

/-! ### "a listed exception type": the subclass relation -/

/-- `Err.isA` is the subclass relation of the modelled class tree.  In particular
    `_ItemsNotDefined` (the internal marker, a `BaseException`) and a user class derived from
    `BaseException` are NOT caught by `catch(Exception)`, while `FilterException` is. -/
theorem C14_subclass :
    Err.userB.isA .userA = true ∧
    Err.userA.isA .userB = false ∧
    Err.filterException.isA .exception = true ∧
    Err.itemsNotDefinedInternal.isA .exception = false ∧
    Err.userBase.isA .exception = false ∧
    Err.keyError.isA .lookupError = true := by
  decide

example : (catchOuts [Err.exception] [.ok 1, .error .filterException, .ok 2, .error .itemsNotDefinedInternal, .ok 3]
    : Stream Nat) = ⟨[1, 2], some .itemsNotDefinedInternal⟩ := rfl

/-- every class is caught by `except` of itself -/
theorem C14_isA_refl (e : Err) : e.isA e = true := by
  rw [isA_step, beq_self_eq_true, Bool.true_or]

example : Err.notImplemented.isA .notImplemented = true := rfl

/-- the subclass relation is transitive: induction along the chain of parents, which ends after four
    steps (`parent_depth`) -/
theorem C14_isA_trans (a b c : Err) (hab : a.isA b = true) (hbc : b.isA c = true) : a.isA c = true := by
  -- transitivity at `a` from transitivity at its parent `p₁`, that from transitivity at `p₂`, …
  refine isA_trans_step (fun p₁ h₁ => ?_) b c hab hbc
  refine isA_trans_step fun p₂ h₂ => ?_
  refine isA_trans_step fun p₃ h₃ => ?_
  refine isA_trans_step fun p₄ h₄ => ?_
  -- … and a fourth ancestor does not exist
  have := parent_depth a
  rw [h₁, Option.bind_some, h₂, Option.bind_some, h₃, Option.bind_some, h₄] at this
  cases this

example : Err.notImplemented.isA .baseException = true :=
  C14_isA_trans .notImplemented .runtimeError .baseException rfl rfl

/-- `except (c,)` is `except c` -/
theorem C14_isAny_singleton (e c : Err) : e.isAny [c] = e.isA c := by
  simp [Err.isAny]

/-- `except (c, c', …)`: a tuple of types catches what any member catches -/
theorem C14_isAny_cons (e c : Err) (cs : List Err) : e.isAny (c :: cs) = (e.isA c || e.isAny cs) := by
  simp [Err.isAny]

example : Err.userB.isAny [.lookupError, .userA] = true ∧ Err.userC.isAny [.lookupError, .userA] = false := by
  decide

/-! ### the three ways of filtering agree -/

/-- For a total predicate `q` and an indexable reference dataset whose examples all evaluate without
    error (and whose iteration is the run of its outcome list: true of sources, slices, caches),
    (i) the lazy filter, (ii) the eager filter (`filter(lazy=False)`, which succeeds) and (iii)
    `catch(FilterException)` over a map that raises `FilterException` unless `q` holds all iterate to
    the same thing: the examples that satisfy `q`, in order, ending normally. -/
theorem C14_three_filters_agree (q : Val → Bool) (r : RefDS) (hi : r.indexable = true) (hw : RefWF2 r)
    (hall : ∀ o ∈ r.outs, ∃ v, o = .ok v) (hs : r.stream = .ofOuts r.outs) :
    (Ref.filter (fun v => .ok (q v)) r).stream = ⟨(okVals r.outs).filter q, none⟩ ∧
    (∃ r', Ref.mkFilterEager (fun v => .ok (q v)) r = .ok r' ∧
      r'.stream = ⟨(okVals r.outs).filter q, none⟩) ∧
    (Ref.catch_ [.filterException]
      (Ref.map (fun v => if q v then .ok v else .error .filterException) r)).stream
        = ⟨(okVals r.outs).filter q, none⟩ := by
  have ho := outs_eq_map_okVals r.outs hall
  have hs' : r.stream = ⟨okVals r.outs, none⟩ := by
    rw [hs]
    conv => lhs; rw [ho]
    exact Stream.ofOuts_map_ok _
  exact ⟨filter_lazy_total q r _ hs', filter_eager_total q r hi hw _ ho hs', filter_catch_total q r hi hw _ ho⟩

/-- The hypothesis `hs` of `C14_three_filters_agree` follows from well-formedness (C02) whenever the
    iteration of the dataset ends normally. -/
theorem C14_stream_ofOuts (r : RefDS) (hi : r.indexable = true) (hw : RefWF2 r)
    (he : r.stream.err = none) : r.stream = .ofOuts r.outs := by
  obtain ⟨hpre, hlen⟩ := hw.toRefWF.posOK hi
  rw [← hpre.eq_of_length (by rw [List.length_map, hlen he]), Stream.ofOuts_map_ok]
  cases hr : r.stream with
  | mk vals err => rw [hr] at he; cases he; rfl

example :
    let q : Val → Bool := fun v => match v with | .int i => i % 2 == 0 | _ => false
    let r := Ref.listSrc [.int 1, .int 2, .int 3, .int 4]
    (Ref.filter (fun v => .ok (q v)) r).stream.vals.length = 2 ∧
    ((Ref.mkFilterEager (fun v => .ok (q v)) r).toOption.map (·.stream.vals.length)) = some 2 ∧
    (Ref.catch_ [.filterException]
      (Ref.map (fun v => if q v then .ok v else .error .filterException) r)).stream.vals.length = 2 := by
  decide +kernel

example (q : Val → Bool) (xs : List Val) :=
  C14_three_filters_agree q (Ref.listSrc xs) rfl (wf2_listSrc xs)
    (fun _ ho => (List.mem_map.1 ho).elim fun v hv => ⟨v, hv.2.symm⟩) (Stream.ofOuts_map_ok xs).symm

end LazyDs
