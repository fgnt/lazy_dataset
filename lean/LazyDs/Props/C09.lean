/-
  C09: isolation of handed-out examples from the dataset's storage (aliasing), final theorems
  about the heap model `LazyDs.Heap`.

  `Stored.tree t` is what the serialising modes (pickle / wu) and the memory / disk cache keep:
  immutable bytes; `Stored.addr a` is copy mode: the dataset keeps the caller's object and deep-copies
  on access.  `ClosedBelow h w` (`LazyDs.Lemmas.HeapLemmas`): the cells below the watermark `w` only
  point below `w`.
  The examples use `Heap.Ex` (also there): the caller's object `{"x": [1, 2]}` in cells 0..3, held as
  bytes (`sPickle`) or by address (`sCopy`), and histories that mutate the handed-out copy
  (`histHanded`), the caller's original list (`histOriginal`) or only handed-out roots (`histRoots`).
-/
import LazyDs.Lemmas.HeapLemmas

namespace LazyDs

open Heap
open Heap.Ex

/-- Serialising modes (pickle / wu) and the caches: if the store consists of trees, then for
    EVERY history (arbitrary accesses and mutations at ANY address, including the caller's
    original container) (1) every access to entry `i` returns exactly the stored tree, and
    (2) every access to an in-range index succeeds in this way.
    (Part (1) does not need `hs`: it holds entry-wise for every `.tree` entry of a mixed store,
    `Heap.isolated_tree`; `hs` is used for (2).) -/
theorem C09_isolated_serialising (s : St) (hs : ∀ x ∈ s.store, ∃ t, x = Stored.tree t)
    (ops : List Op) :
    (∀ (k i : Nat) (t : Tree), ops[k]? = some (.access i) → s.store[i]? = some (.tree t) →
      (run s ops).2[k]? = some (some t)) ∧
    (∀ (k i : Nat), ops[k]? = some (.access i) → i < s.store.length →
      ∃ t, s.store[i]? = some (.tree t) ∧ (run s ops).2[k]? = some (some t)) := by
  refine ⟨isolated_tree s ops, fun k i hop hi => ?_⟩
  obtain ⟨t, ht⟩ := hs s.store[i] (List.getElem_mem hi)
  have hst : s.store[i]? = some (.tree t) := by rw [List.getElem?_eq_getElem hi, ht]
  exact ⟨t, hst, isolated_tree s ops k i t hop hst⟩

example : (run sPickle histOriginal).2 = [some tEx, none, none, some tEx] := rfl
example : (run sPickle histOriginal).2[3]? = some (some tEx) :=
  (C09_isolated_serialising sPickle (by simp [sPickle]) histOriginal).1 3 0 tEx rfl rfl

/-- Copy mode: let `w = s.heap.length` be the watermark at construction; assume the heap is closed
    below `w`, and every stored address `a` is `< w` and reads as the tree `t a`.  If every
    `mutate` of the history targets an address `≥ w` (only handed-out copies are mutated, never
    the original container), every access to an `.addr a` entry returns `t a`. -/
theorem C09_isolated_copy (s : St) (t : Addr → Tree)
    (hcl : ClosedBelow s.heap s.heap.length)
    (hst : ∀ a : Nat, Stored.addr a ∈ s.store →
      a < s.heap.length ∧ snapshot s.heap (fuelOf s.heap) a = some (t a))
    (ops : List Op) (hm : ∀ (a : Nat) c, Op.mutate a c ∈ ops → s.heap.length ≤ a) :
    ∀ (k i a : Nat), ops[k]? = some (.access i) → s.store[i]? = some (.addr a) →
      (run s ops).2[k]? = some (some (t a)) := by
  intro k i a hop hsi
  have ha := hst a (List.mem_of_getElem? hsi)
  exact isolated_addr s s.heap.length (Nat.le_refl _) hcl ops hm k i a (t a) hop hsi ha.1 ha.2

example : (run sCopy histHanded).2 = [some tEx, none, none, some tEx] := rfl
example : (run sCopy histHanded).2[3]? = some (some tEx) :=
  C09_isolated_copy sCopy (fun _ => tEx) (closedBelow_of_check (by decide))
    (by intro a ha; simp [sCopy] at ha; subst ha; exact ⟨by decide, rfl⟩)
    histHanded (by intro a c h; simp [histHanded] at h; rcases h with ⟨rfl, _⟩ | ⟨rfl, _⟩ <;> decide)
    3 0 3 rfl rfl

/-- Copy mode does NOT protect against the caller mutating the original container after
    construction (a `mutate` BELOW the watermark): the later access returns the mutated value.
    This is why immunity to that is promised for the serialising modes only. -/
theorem C09_copy_mode_aliases_original :
    (run sCopy histOriginal).2 =
      [some (.dict [("x", .list [.int 1, .int 2])]), none, none,
       some (.dict [("x", .list [.int 1])])] := rfl

example : (run sPickle histOriginal).2[3]? = some (some (.dict [("x", .list [.int 1, .int 2])])) := rfl
example : (run sCopy histOriginal).2[3]? = some (some (.dict [("x", .list [.int 1])])) := rfl

/-- Every address handed out by an access is fresh: it is `≥` the heap length before the access
    (hence different from every stored object and from everything handed out earlier, all of
    which are valid addresses of the old heap) and valid in the new heap. -/
theorem C09_handed_out_fresh (s s' : St) (i : Nat) (t : Tree)
    (h : step s (.access i) = (s', some t)) :
    ∃ a : Nat, s'.handed = a :: s.handed ∧ s.heap.length ≤ a ∧ a < s'.heap.length := by
  rw [step_access] at h
  cases hr : read s i with
  | none => rw [hr] at h; cases h
  | some t' =>
    rw [hr] at h
    cases (Prod.mk.inj h).1
    exact ⟨(alloc s.heap t').2, rfl, alloc_root_fresh s.heap t'⟩

example : (run sCopy histHanded).1.handed = [11, 7] := by decide +kernel
example : (step sCopy (.access 0)).1.handed = [7] ∧ sCopy.heap.length = 4 := by decide +kernel

/-- Consequently, starting from the construction state (nothing handed out yet), the handed-out
    roots are pairwise distinct and all at or above the construction watermark. -/
theorem C09_handed_out_distinct (s : St) (hh : s.handed = []) (ops : List Op) :
    (run s ops).1.handed.Nodup ∧ ∀ a : Nat, a ∈ (run s ops).1.handed → s.heap.length ≤ a := by
  refine ⟨(run_handed_nodup s ops (by simp [hh]) (by simp [hh])).2, fun a ha => ?_⟩
  rcases run_handed_ge s ops a ha with h | h
  · simp [hh] at h
  · exact h

example : (run sCopy histHanded).1.handed.Nodup := (C09_handed_out_distinct sCopy rfl histHanded).1

/-- Both modes: in a history started at construction in which every `mutate` targets an address
    that was handed out earlier, any two accesses to the same valid index return the same tree,
    namely the stored tree (`.tree`) resp. the tree read at construction (`.addr`).  The heap
    hypotheses of `C09_isolated_copy` are needed only if the store contains an `.addr` entry. -/
theorem C09_mutate_handed_does_not_touch_store (s : St) (t : Addr → Tree) (hh : s.handed = [])
    (hcl : (∃ a, Stored.addr a ∈ s.store) → ClosedBelow s.heap s.heap.length)
    (hst : ∀ a : Nat, Stored.addr a ∈ s.store →
      a < s.heap.length ∧ snapshot s.heap (fuelOf s.heap) a = some (t a))
    (ops : List Op)
    (hm : ∀ k a c, ops[k]? = some (.mutate a c) → a ∈ (run s (ops.take k)).1.handed)
    (k₁ k₂ i : Nat) (h₁ : ops[k₁]? = some (.access i)) (h₂ : ops[k₂]? = some (.access i))
    (hi : i < s.store.length) :
    ∃ u, (run s ops).2[k₁]? = some (some u) ∧ (run s ops).2[k₂]? = some (some u) ∧
      (s.store[i]? = some (.tree u) ∨ ∃ a, s.store[i]? = some (.addr a) ∧ u = t a) := by
  have hge := mutates_ge_of_handed s.heap.length s ops (Nat.le_refl _) (by simp [hh]) hm
  cases hsi : s.store[i]? with
  | none => rw [List.getElem?_eq_none_iff] at hsi; omega
  | some x =>
    cases x with
    | tree u =>
      exact ⟨u, isolated_tree s ops k₁ i u h₁ hsi, isolated_tree s ops k₂ i u h₂ hsi, Or.inl rfl⟩
    | addr a =>
      have hmem := List.mem_of_getElem? hsi
      have ha := hst a hmem
      have hcl' := hcl ⟨a, hmem⟩
      exact ⟨t a,
        isolated_addr s _ (Nat.le_refl _) hcl' ops hge k₁ i a (t a) h₁ hsi ha.1 ha.2,
        isolated_addr s _ (Nat.le_refl _) hcl' ops hge k₂ i a (t a) h₂ hsi ha.1 ha.2,
        Or.inr ⟨a, rfl, rfl⟩⟩

example : (run sCopy histRoots).2 = [some tEx, none, some tEx, none, some tEx] := rfl
example : (run sPickle histRoots).2 = [some tEx, none, some tEx, none, some tEx] := rfl
example : (run sCopy histRoots).1.handed = [15, 11, 7] := by decide +kernel
example : ∃ u, (run sCopy histRoots).2[0]? = some (some u) ∧
    (run sCopy histRoots).2[4]? = some (some u) ∧
    (sCopy.store[0]? = some (.tree u) ∨ ∃ a, sCopy.store[0]? = some (.addr a) ∧ u = tEx) :=
  C09_mutate_handed_does_not_touch_store sCopy (fun _ => tEx) rfl
    (fun _ => closedBelow_of_check (by decide))
    (fun a ha => by cases List.mem_singleton.1 ha; exact ⟨by decide, rfl⟩)
    histRoots
    (fun k a c h => match k, h with
      | 1, h => by cases h; decide
      | 3, h => by cases h; decide
      | k + 5, h => nomatch h)
    0 4 0 rfl rfl (by decide)

end LazyDs
