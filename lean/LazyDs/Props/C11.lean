/-
  C11: `DiskCacheDataset` (persistent cache directory, process death), final theorems about the
  model `LazyDs.Disk`.

  The hypothesis `Disk.Good f s` of most theorems is the invariant of `LazyDs.Lemmas.DiskInv`: every
  existing directory holds values `f i` at indices `i < n`, at most one per index; an alive wrapper
  has a holder and an existing directory that no other alive wrapper is on.  It holds in every
  reachable state (`C11_good_reach`).  `Disk.NoAliveOn s d`, no alive wrapper of `s` is on directory
  `d`, is the case the model covers: two caches open on one directory at the same time within one
  process are not modelled.
  The theorems come with `example`s on the concrete history `Disk.Ex.hist` (16 operations
  on a dataset of length 4 with two directory names: two caches, a copy, a `kill` in the middle,
  a refused and a successful reopening, a dead wrapper, a clearing finaliser), with `V := Nat`
  and `fEx i = 10 * i + 7`; `sPre`, `sKilled`, `sReopen` are the states before the `kill`, after
  it, and after directory 1 was reopened.
-/
import LazyDs.Lemmas.DiskInv

namespace LazyDs

open Disk (St Op Out Wrapper step run init lookup keys Good NoAliveOn Reach)
open Disk.Ex

example : (run fEx (init 4 2) hist).2 =
    [.opened 0, .val 27, .ok, .opened 1, .val 37, .val 17, .ok, .ok,
     .refused, .opened 2, .val 37, .val 7, .bad, .ok, .opened 3, .val 27] := by decide +kernel
example : (run fEx (init 4 2) hist).1.dirs = [some [(2, 27)], none] := by decide +kernel
example : (run fEx (init 4 2) hist).1.calls = [1, 1, 1, 1] := by decide +kernel
example : sPre.dirs = [some [(2, 27)], some [(3, 37), (1, 17)]] ∧ sKilled.dirs = sPre.dirs := by decide +kernel

/-! ## The invariant -/

/-- The initial state (no directory exists, no wrapper) is `Good`. -/
theorem C11_good_init {V : Type} (f : Nat → V) (n ndirs : Nat) : Good f (init n ndirs) :=
  Disk.good_init f n ndirs

example : (init 4 2 : St Nat) = ⟨4, [none, none], [], [0, 0, 0, 0]⟩ := rfl

/-- EVERY operation preserves `Good`, including `kill` (the process dies without running any
    finaliser). -/
theorem C11_good_step {V : Type} (f : Nat → V) (s : St V) (op : Op) (hg : Good f s) :
    Good f (step f s op).1 :=
  Disk.good_step hg op

/-- ... hence every history does ... -/
theorem C11_good_run {V : Type} (f : Nat → V) (s : St V) (ops : List Op) (hg : Good f s) :
    Good f (run f s ops).1 :=
  Disk.good_run hg ops

/-- ... and every reachable state is `Good`. -/
theorem C11_good_reach {V : Type} (f : Nat → V) (n ndirs : Nat) (s : St V)
    (h : Reach f n ndirs s) : Good f s := by
  obtain ⟨ops, rfl⟩ := h
  exact Disk.good_run (Disk.good_init f n ndirs) ops

-- the contents of `Good` on the state before the kill: entries right, wrappers 0 and 1 alive
-- with one holder each on different existing directories
example : (∀ es ∈ sPre.dirs, ∀ e ∈ es, ∀ p ∈ e, p.2 = fEx p.1 ∧ p.1 < 4) ∧
    (∀ es ∈ sPre.dirs, ∀ e ∈ es, (keys e).Nodup) ∧
    sPre.wrappers = [⟨0, true, 1, true⟩, ⟨1, false, 1, true⟩] ∧ sPre.calls.length = 4 := by decide +kernel

/-! ## Values -/

/-- A `get` never returns a corrupt or misplaced example: whatever it returns is `f i`. -/
theorem C11_values {V : Type} (f : Nat → V) (s s' : St V) (w i : Nat) (v : V) (hg : Good f s)
    (h : step f s (.get w i) = (s', .val v)) : v = f i :=
  Disk.step_get_value hg (congrArg Prod.snd h)

example : (step fEx sReopen (.get 2 3)).2 = .val (fEx 3) ∧
    (step fEx sReopen (.get 2 0)).2 = .val (fEx 0) := by decide +kernel

/-- The `.bad` branch "a live wrapper without its directory" of the model is unreachable: in a
    `Good` state a `get` through an alive wrapper with `i < n` returns a value. -/
theorem C11_alive_has_dir {V : Type} (f : Nat → V) (s : St V) (w i : Nat) (wr : Wrapper)
    (hg : Good f s) (hw : s.wrappers[w]? = some wr) (ha : wr.alive = true) (hi : i < s.n) :
    (∃ es, s.dirs[wr.dir]? = some (some es)) ∧ (step f s (.get w i)).2 = .val (f i) ∧
      (step f s (.get w i)).2 ≠ .bad := by
  obtain ⟨es, hd⟩ := hg.has_dir w wr hw ha
  have hv : (step f s (.get w i)).2 = .val (f i) := by
    cases hl : lookup es i with
    | none => rw [Disk.step_get_miss f hw ha hi hd hl]
    | some v =>
      rw [Disk.step_get_hit f hw ha hi hd hl]
      rw [(hg.entries _ es hd i v (Disk.mem_of_lookup hl)).1]
  exact ⟨⟨es, hd⟩, hv, by rw [hv]; intro h; cases h⟩

example : ∀ w < 2, ∀ i < 4, (step fEx sPre (.get w i)).2 = .val (fEx i) := by decide +kernel

/-! ## Reuse, also after the writing process was killed -/

/-- An entry that is in the directory is served from it: the state does not change at all, in
    particular `calls` does not (no recomputation). -/
theorem C11_reuse_no_recompute {V : Type} (f : Nat → V) (s : St V) (w i : Nat) (wr : Wrapper)
    (es : List (Nat × V)) (v : V) (hg : Good f s)
    (hw : s.wrappers[w]? = some wr) (ha : wr.alive = true)
    (hd : s.dirs[wr.dir]? = some (some es)) (hl : lookup es i = some v) :
    step f s (.get w i) = (s, .val v) :=
  Disk.step_get_hit f hw ha (hg.entries _ es hd i v (Disk.mem_of_lookup hl)).2 hd hl

example : step fEx sReopen (.get 2 3) = (sReopen, .val 37) := by decide +kernel

/-- `kill` touches neither the file system nor the call counters; it only takes all wrappers
    away, without finaliser. -/
theorem C11_kill_preserves_dirs {V : Type} (f : Nat → V) (s : St V) :
    (step f s .kill).1.dirs = s.dirs ∧ (step f s .kill).1.calls = s.calls ∧
      ∀ d, NoAliveOn (step f s .kill).1 d := by
  refine ⟨rfl, rfl, ?_⟩
  intro d wr hwr ha
  rw [Disk.step_kill] at hwr
  simp only [List.mem_map] at hwr
  obtain ⟨a, _, rfl⟩ := hwr
  cases ha

example : (step fEx sPre .kill).1.dirs = sPre.dirs ∧ (step fEx sPre .kill).1.calls = sPre.calls ∧
    (step fEx sPre .kill).1.wrappers = [⟨0, true, 0, false⟩, ⟨1, false, 0, false⟩] := by decide +kernel

/-- Opening an existing directory with `reuse = True` succeeds and keeps the file system as it
    is; the new wrapper is alive on `d` with one holder. -/
theorem C11_open_reuse_keeps_entries {V : Type} (f : Nat → V) (s : St V) (d : Nat) (clear : Bool)
    (es : List (Nat × V)) (hd : s.dirs[d]? = some (some es)) (hn : NoAliveOn s d) :
    (step f s (.open_ d true clear)).1.dirs = s.dirs ∧
    (step f s (.open_ d true clear)).1.calls = s.calls ∧
    (step f s (.open_ d true clear)).2 = .opened s.wrappers.length ∧
    (step f s (.open_ d true clear)).1.wrappers[s.wrappers.length]? = some ⟨d, clear, 1, true⟩ := by
  rw [Disk.step_open_reuse f clear hn hd]
  exact ⟨rfl, rfl, rfl, by simp⟩

example : (step fEx sKilled (.open_ 1 true true)).1.dirs = sKilled.dirs ∧
    (step fEx sKilled (.open_ 1 true true)).2 = .opened 2 := by decide +kernel

/-- Reuse after the writing process was killed, in one statement: from a `Good` state in which
    directory `d` holds an entry for `i`, the history `kill; open d (reuse); get i` returns that
    entry (which is `f i`) and changes neither the file system nor the call counters. -/
theorem C11_reuse_after_kill {V : Type} (f : Nat → V) (s : St V) (d i : Nat) (clear : Bool)
    (es : List (Nat × V)) (v : V) (hg : Good f s)
    (hd : s.dirs[d]? = some (some es)) (hl : lookup es i = some v) :
    (run f s [.kill, .open_ d true clear, .get s.wrappers.length i]).2 =
        [.ok, .opened s.wrappers.length, .val v] ∧ v = f i ∧
    (run f s [.kill, .open_ d true clear, .get s.wrappers.length i]).1.dirs = s.dirs ∧
    (run f s [.kill, .open_ d true clear, .get s.wrappers.length i]).1.calls = s.calls := by
  obtain ⟨hv, hi⟩ := hg.entries d es hd i v (Disk.mem_of_lookup hl)
  have hk := C11_kill_preserves_dirs f s
  have hlen₁ : (step f s .kill).1.wrappers.length = s.wrappers.length := by
    rw [Disk.step_kill]; simp
  have ho := C11_open_reuse_keeps_entries f (step f s .kill).1 d clear es hd (hk.2.2 d)
  rw [hlen₁] at ho
  have hd₂ : (step f (step f s .kill).1 (.open_ d true clear)).1.dirs[d]? = some (some es) := by
    rw [ho.1]; exact hd
  have hn₂ : (step f (step f s .kill).1 (.open_ d true clear)).1.n = s.n := by
    rw [Disk.step_open_reuse f clear (hk.2.2 d) hd]; rfl
  have hget := Disk.step_get_hit f (w := s.wrappers.length) (i := i) ho.2.2.2 rfl
    (by rw [hn₂]; exact hi) hd₂ hl
  simp only [Disk.run_cons, Disk.run_nil, hget]
  exact ⟨by rw [ho.2.2.1]; rfl, hv, by rw [ho.1, hk.1], by rw [ho.2.1, hk.2.1]⟩

-- directory 1 was written by wrapper 1; after the kill, wrapper 2 reads the same 37 from it
example : (run fEx sPre [.kill, .open_ 1 true true, .get 2 3]).2 = [.ok, .opened 2, .val 37] ∧
    (run fEx sPre [.kill, .open_ 1 true true, .get 2 3]).1.calls = sPre.calls := by decide +kernel

/-- Kill at ANY point of ANY history: the final state is `Good` and every value read after the
    kill (position `ops₁.length + 1 + k` of the whole history is position `k` of `ops₂`) is `f i`.
    (By `Disk.run_values` the same holds for every value read before the kill.) -/
theorem C11_kill_anywhere {V : Type} (f : Nat → V) (n ndirs : Nat) (ops₁ ops₂ : List Op) :
    Good f (run f (init n ndirs) (ops₁ ++ [.kill] ++ ops₂)).1 ∧
    ∀ (k w i : Nat) (v : V), ops₂[k]? = some (Op.get w i) →
      (run f (init n ndirs) (ops₁ ++ [.kill] ++ ops₂)).2[ops₁.length + 1 + k]? = some (Out.val v) →
      v = f i := by
  refine ⟨Disk.good_run (Disk.good_init f n ndirs) _, ?_⟩
  intro k w i v hk ho
  refine Disk.run_values (Disk.good_init f n ndirs) _ (ops₁.length + 1 + k) w i v ?_ ho
  rw [List.getElem?_append_right (by simp)]
  simpa using hk

example : hist = hist₁ ++ [.kill] ++ hist₂ ∧
    (∀ k w i v, hist₂[k]? = some (Op.get w i) →
      (run fEx (init 4 2) hist).2[hist₁.length + 1 + k]? = some (Out.val v) → v = fEx i) :=
  have e : hist = hist₁ ++ [.kill] ++ hist₂ := by decide +kernel
  ⟨e, fun k w i v h₁ h₂ => (C11_kill_anywhere fEx 4 2 hist₁ hist₂).2 k w i v h₁ (e ▸ h₂)⟩
example : (run fEx (init 4 2) hist).2.drop 8 =
    [.refused, .opened 2, .val (fEx 3), .val (fEx 0), .bad, .ok, .opened 3, .val (fEx 2)] := by decide +kernel

/-! ## Refusing and clearing -/

/-- Opening an existing directory with `reuse = False` is refused and changes nothing. -/
theorem C11_refuse_nonempty {V : Type} (f : Nat → V) (s : St V) (d : Nat) (clear : Bool)
    (es : List (Nat × V)) (hd : s.dirs[d]? = some (some es)) (hn : NoAliveOn s d) :
    step f s (.open_ d false clear) = (s, .refused) := by
  rw [← Disk.any_alive_eq_false_iff] at hn
  simp [step, hn, hd]

example : step fEx sKilled (.open_ 1 false false) = (sKilled, .refused) := by decide +kernel

/-- The finaliser: when the LAST holder of an alive wrapper `w` on directory `d` is released, the
    directory is removed iff `clear`, and nothing else in the file system changes.  Releasing a
    holder that is not the last, `copy` and `kill` leave the file system alone. -/
theorem C11_clear_iff {V : Type} (f : Nat → V) (s : St V) (w : Nat) (wr : Wrapper)
    (hg : Good f s) (hw : s.wrappers[w]? = some wr) (ha : wr.alive = true) :
    (wr.holders = 1 →
      ((step f s (.release w)).1.dirs[wr.dir]? = some none ↔ wr.clear = true) ∧
      (step f s (.release w)).1.dirs = (if wr.clear then s.dirs.set wr.dir none else s.dirs)) ∧
    (1 < wr.holders → (step f s (.release w)).1.dirs = s.dirs) ∧
    (step f s (.copy w)).1.dirs = s.dirs ∧
    (step f s .kill).1.dirs = s.dirs := by
  obtain ⟨es, hd⟩ := hg.has_dir w wr hw ha
  have hdl := List.lt_of_getElem?_eq_some hd
  refine ⟨?_, ?_, ?_, rfl⟩
  · intro hh
    have e : step f s (.release w) =
        ({ s with dirs := if wr.clear then s.dirs.set wr.dir none else s.dirs,
                  wrappers := s.wrappers.set w { wr with holders := 0, alive := false } },
          .ok) := by
      simp [step, hw, ha, hh]
    rw [e]
    refine ⟨?_, rfl⟩
    cases hc : wr.clear with
    | false => simp [hd]
    | true => simp [hdl]
  · intro hh
    simp [step, hw, ha, hh]
  · simp [step, hw, ha]

-- wrapper 2 (clear, one holder) removes directory 1; wrapper 1 before the kill (no clear) would
-- have left it; wrapper 0 with two holders leaves directory 0 although it has clear
example : (step fEx (run fEx (init 4 2) (hist.take 13)).1 (.release 2)).1.dirs[1]? = some none ∧
    (step fEx sPre (.release 1)).1.dirs = sPre.dirs ∧
    (step fEx (run fEx (init 4 2) (hist.take 6)).1 (.release 0)).1.dirs =
      (run fEx (init 4 2) (hist.take 6)).1.dirs := by decide +kernel

/-- The only way a directory disappears: if `d` does not exist after a step, it did not exist
    before, or the step was the release of the last holder of an alive wrapper on `d` that has
    `clear`.  So `open_`, `get`, `copy`, `kill`, and a `release` that is not the last or has no
    `clear`, never remove a directory. -/
theorem C11_clear_only {V : Type} (f : Nat → V) (s : St V) (op : Op) (d : Nat) (hg : Good f s)
    (h : (step f s op).1.dirs[d]? = some none) :
    s.dirs[d]? = some none ∨
      ∃ w wr, op = .release w ∧ s.wrappers[w]? = some wr ∧ wr.alive = true ∧ wr.holders = 1 ∧
        wr.clear = true ∧ wr.dir = d := by
  -- a `set` that puts `some _` does not make `d` disappear
  have keep : ∀ (d' : Nat) (x : List (Nat × V)), (s.dirs.set d' (some x))[d]? = some none →
      s.dirs[d]? = some none := fun d' x h =>
    (List.getElem?_set_some_cases h).elim (fun h' => nomatch h'.2) (·.2)
  revert h
  refine Disk.step_ind f (P := fun t _ => t.dirs[d]? = some none → _) op
    (same := fun _ _ => .inl) (open_new := fun d' _ _ _ _ _ h => .inl (keep d' _ h))
    (open_reuse := fun _ _ _ _ _ _ => .inl) (get_hit := fun _ _ _ _ _ _ _ _ _ _ _ => .inl)
    (get_miss := fun _ _ wr _ _ _ _ _ _ _ h => .inl (keep wr.dir _ h))
    (holders := fun _ _ _ _ _ _ => .inl) (release_last := fun w wr e hw ha hh h => ?_)
    (kill := .inl)
  cases hc : wr.clear with
  | false => rw [hc] at h; exact .inl h
  | true =>
    rw [hc, if_pos rfl] at h
    rcases List.getElem?_set_some_cases h with ⟨e', _⟩ | ⟨_, h'⟩
    · exact .inr ⟨w, wr, e, hw, ha, Nat.le_antisymm hh (hg.holders w wr hw ha), hc, e'⟩
    · exact .inl h'

-- in the whole example history the only step after which a directory is newly missing is
-- number 13, `release 2`
example : (List.range 16).filter (fun k =>
      (List.range 2).any (fun d =>
        (run fEx (init 4 2) (hist.take (k + 1))).1.dirs[d]? == some none &&
        (run fEx (init 4 2) (hist.take k)).1.dirs[d]? != some none)) = [13] ∧
    hist[13]? = some (.release 2) := by decide +kernel

/-! ## The upstream pipeline runs only on a miss -/

/-- If a step changes the call counter of example `i`, the step is a `get _ i` through an alive
    wrapper whose directory has no entry for `i`; the counter then grows by exactly 1 and the
    value returned is `f i`. -/
theorem C11_calls_only_on_miss {V : Type} (f : Nat → V) (s : St V) (op : Op) (i : Nat)
    (hg : Good f s) (h : (step f s op).1.calls.getD i 0 ≠ s.calls.getD i 0) :
    ∃ w wr es, op = .get w i ∧ s.wrappers[w]? = some wr ∧ wr.alive = true ∧ i < s.n ∧
      s.dirs[wr.dir]? = some (some es) ∧ lookup es i = none ∧
      (step f s op).2 = .val (f i) ∧
      (step f s op).1.calls.getD i 0 = s.calls.getD i 0 + 1 := by
  revert h
  refine Disk.step_ind f (P := fun t o => t.calls.getD i 0 ≠ s.calls.getD i 0 →
      ∃ w wr es, op = .get w i ∧ s.wrappers[w]? = some wr ∧ wr.alive = true ∧ i < s.n ∧
        s.dirs[wr.dir]? = some (some es) ∧ lookup es i = none ∧ o = .val (f i) ∧
        t.calls.getD i 0 = s.calls.getD i 0 + 1) op
    (same := fun _ _ h => absurd rfl h) (open_new := fun _ _ _ _ _ _ h => absurd rfl h)
    (open_reuse := fun _ _ _ _ _ _ h => absurd rfl h)
    (get_hit := fun _ _ _ _ _ _ _ _ _ _ _ h => absurd rfl h)
    (get_miss := fun w i' wr es e hw ha hi hd hl h => ?_)
    (holders := fun _ _ _ _ _ _ h => absurd rfl h)
    (release_last := fun _ _ _ _ _ _ h => absurd rfl h) (kill := fun h => absurd rfl h)
  by_cases hii : i' = i
  · subst hii
    exact ⟨w, wr, es, e, hw, ha, hi, hd, hl, rfl,
      List.getD_set_self _ (by rw [hg.calls_len]; exact hi)⟩
  · exact absurd (List.getD_set_ne _ hii) h

-- the call counters before the history and after each of its 16 steps: they move at the four
-- misses (operations number 1, 4, 5, 11, counted from 0) only, and each example was computed once
-- in total, across the kill
example : (List.range 17).map (fun k => (run fEx (init 4 2) (hist.take k)).1.calls) =
    [[0,0,0,0], [0,0,0,0], [0,0,1,0], [0,0,1,0], [0,0,1,0], [0,0,1,1], [0,1,1,1], [0,1,1,1],
     [0,1,1,1], [0,1,1,1], [0,1,1,1], [0,1,1,1], [1,1,1,1], [1,1,1,1], [1,1,1,1], [1,1,1,1],
     [1,1,1,1]] := by decide +kernel

end LazyDs
