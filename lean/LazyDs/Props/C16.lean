import LazyDs.Lemmas.RefLaws
import LazyDs.Props.C15
/-
  Property C16: structurally different pipelines that denote the same computation are
  observationally equal.

  The laws are stated on the eager reference data (`RefDS`, `Spec/Ref.lean`): "observationally
  equal" is equality of `stream` (what iteration yields, including how it ends) and, where both
  sides are indexable, of `outs` (one outcome per position), `len` and `keys`.  Where it holds, the
  law is stated as equality of the whole reference dataset (all six fields: `indexable`, `outs`,
  `stream`, `kstream`, `keys`, `len`).  Section 11 transports the laws to the model of the lazy code
  (`build ρ`) through the refinement theorem `build_ref`.

  Laws that are false in general are proved under the exact/sufficient hypothesis as
  `<name>_partial` and refuted in general by `<name>_counterexample`:

  * `batch(n).unbatch()` is the identity only when the input ends normally; in general the examples
    after the last full batch are lost (`C16_batch_unbatch_general`, `…_counterexample`);
  * `map(f).batch(n)` vs `batch(n).map(batchMap f)`, positionally: the two sides may fail with
    different exceptions when a batch contains an example that already failed *and* one on which `f`
    fails (`C16_map_batch_partial`, `…_counterexample`);
  * the same for iteration: with `drop_last` the left side evaluates `f` on the dropped tail, and
    with an input that raises it evaluates `f` on the examples of the incomplete batch
    (`C16_map_batch_stream_partial`, `…_total`, `…_counterexample`, `…_counterexample_err`).
-/
namespace LazyDs

namespace C16Example

def xs : List Val := [.int 1, .int 2, .int 3, .int 4, .int 5]
/-- `lazy_dataset.new([1, 2, 3, 4, 5])` -/
def src : RefDS := Ref.listSrc xs
/-- `lazy_dataset.new({'a': 1, 'b': 2, 'c': 3, 'd': 4})` -/
def dsrc : RefDS := Ref.dictSrc [("a", .int 1), ("b", .int 2), ("c", .int 3), ("d", .int 4)]
def inc : Val → Res Val
  | .int i => .ok (.int (i + 1))
  | _ => .error .typeError
def times10 : Val → Res Val
  | .int i => .ok (.int (10 * i))
  | _ => .error .typeError
def boom : Val → Res Val := fun _ => .error .typeError
def isOdd : Val → Bool
  | .int i => i % 2 == 1
  | _ => false
/-- `[1, 2, 3].map(failOn3)`: the third example raises `ValueError` -/
def bad : RefDS := Ref.map failOn3 (Ref.listSrc [.int 1, .int 2, .int 3])

end C16Example

open C16Example

/-! ### 1. `batch(n).unbatch()` -/

/-- C16, general form: when the input raises, `batch(n).unbatch()` (and, with
    `drop_last`, always) delivers the longest prefix whose length is a multiple of `n`, i.e. the full
    batches, and ends the way the input ends. -/
theorem C16_batch_unbatch_general (r : RefDS) {n : Nat} (hn : 1 ≤ n) (dl : Bool) :
    (Ref.unbatch (Ref.batch n dl r)).stream =
      if dl = false ∧ r.stream.err = none then ⟨r.stream.vals, none⟩
      else ⟨r.stream.vals.take (r.stream.vals.length / n * n), r.stream.err⟩ := by
  simp only [Ref.unbatch, Ref.batch, batchStream]
  cases he : r.stream.err with
  | some e =>
    rw [if_neg fun h => nomatch h.2]
    simp only [unbatchAux_lists, chunkAux_true_flatten hn]
  | none =>
    cases dl with
    | false => rw [if_pos ⟨rfl, rfl⟩]; simp only [unbatchAux_lists, chunkAux_flatten]
    | true => rw [if_neg fun h => nomatch h.1]; simp only [unbatchAux_lists, chunkAux_true_flatten hn]

example : (Ref.unbatch (Ref.batch 2 true src)).stream = ⟨[.int 1, .int 2, .int 3, .int 4], none⟩ := by rfl

/-- C16: `batch(n).unbatch()` is the identity on every dataset whose iteration ends normally. -/
theorem C16_batch_unbatch (r : RefDS) {n : Nat} (hn : 1 ≤ n) (he : r.stream.err = none) :
    (Ref.unbatch (Ref.batch n false r)).stream = r.stream := by
  rw [C16_batch_unbatch_general r hn, if_pos ⟨rfl, he⟩, ← he]

example : (Ref.unbatch (Ref.batch 2 false src)).stream = ⟨xs, none⟩ := by rfl
example : (Ref.unbatch (Ref.batch 2 false src)).stream = src.stream :=
  C16_batch_unbatch src (by decide) rfl

/-- The unrestricted form of `C16_batch_unbatch` is false: `[1, 2, 3].map(failOn3)` yields `1, 2` and
    raises; batched by 3 and unbatched it yields nothing before raising. -/
theorem C16_batch_unbatch_counterexample :
    ∃ (r : RefDS) (n : Nat), 1 ≤ n ∧ (Ref.unbatch (Ref.batch n false r)).stream ≠ r.stream := by
  refine ⟨bad, 3, by decide, ?_⟩
  intro h
  have h1 : (Ref.unbatch (Ref.batch 3 false bad)).stream = ⟨[], some .valueError⟩ := by rfl
  have h2 : bad.stream = ⟨[.int 1, .int 2], some .valueError⟩ := by rfl
  rw [h1, h2] at h
  cases h

example : (Ref.unbatch (Ref.batch 2 false bad)).stream = ⟨[.int 1, .int 2], some .valueError⟩ := by rfl

/-! ### 2. `concatenate(*ds.split(k))` -/

/-- C16: concatenating the parts of `split(k)` gives back every positional outcome, the length, and
    iterates the positions in order (uses `C15_sections_concat`). -/
theorem C16_concat_split {r : RefDS} (hw : RefWF2 r) (hi : r.indexable = true) {k : Int}
    {parts : List RefDS} (h : Ref.mkSplit k r = .ok parts) :
    (Ref.concat parts).outs = r.outs ∧ (Ref.concat parts).stream = .ofOuts r.outs ∧
      (Ref.concat parts).len = r.len ∧ (Ref.concat parts).indexable = true := by
  obtain ⟨hk, rfl⟩ := mkSplit_parts hi (hw.lenOuts hi) h
  obtain ⟨h1, h2, h3, h4⟩ := concat_slices r ((List.range k.toNat).map (sectionIdx r.outs.length k.toNat))
  rw [C15_sections_concat _ _ hk] at h1 h2 h3
  simp only [Ref.slice, range_map_outAt, List.length_range] at h1 h2 h3
  exact ⟨h1, h2, h3.trans (hw.lenOuts hi).symm, h4⟩

/-- C16: … hence it is the identity for iteration on every dataset that iterates its positions in order
    (every source, slice, shuffle, sort, shard, cache, and every `map`/`concatenate` of such). -/
theorem C16_concat_split_stream {r : RefDS} (hw : RefWF2 r) (hi : r.indexable = true) {k : Int}
    {parts : List RefDS} (h : Ref.mkSplit k r = .ok parts) (hs : r.stream = .ofOuts r.outs) :
    (Ref.concat parts).stream = r.stream := by
  rw [hs]; exact (C16_concat_split hw hi h).2.1

/-- C16: the key table of `concatenate(*ds.split(k))` is the key table of `ds`, unless that has
    duplicate keys (then `ConcatenateDataset.keys()` raises its `AssertionError`). -/
theorem C16_concat_split_keys {r : RefDS} (hw : RefWF2 r) (hi : r.indexable = true) {k : Int}
    {parts : List RefDS} (h : Ref.mkSplit k r = .ok parts) :
    (Ref.concat parts).keys =
      match r.keys with
      | .error e => .error e
      | .ok ks => if hasDup ks then .error .assertionError else .ok ks := by
  obtain ⟨hk, rfl⟩ := mkSplit_parts hi (hw.lenOuts hi) h
  rw [concat_slices_keys (by rw [List.length_map, List.length_range]; exact hk) fun ks hks j hj => by
    rw [C15_sections_concat _ _ hk] at hj; rw [hw.keysLen hi ks hks]; exact List.mem_range.mp hj]
  cases hks : r.keys with
  | error e => rfl
  | ok ks => rw [ok_bind, C15_sections_concat _ _ hk, ← hw.keysLen hi ks hks, range_map_getD]

example : (Ref.mkSplit 2 dsrc).map (fun parts => (Ref.concat parts).keys) = .ok (.ok ["a", "b", "c", "d"]) := by
  rfl

example : (Ref.mkSplit 2 src).map (fun parts => (parts.map (·.stream.vals), (Ref.concat parts).stream))
    = .ok ([[.int 1, .int 2, .int 3], [.int 4, .int 5]], ⟨xs, none⟩) := by rfl

/-! ### 3. nested slices -/

/-- C16: selecting from a selection is selecting by the composed index list: `ds[s₁][s₂]` and
    `ds[[s₁[j] for j in s₂]]` are the same dataset (positions, iteration with and without keys,
    key table, length). -/
theorem C16_slice_slice {r : RefDS} (hw : RefWF2 r) (hi : r.indexable = true) {s₁ s₂ : List Nat}
    (h₁ : ∀ j ∈ s₁, j < r.outs.length) (h₂ : ∀ j ∈ s₂, j < s₁.length) :
    Ref.slice s₂ (Ref.slice s₁ r) = Ref.slice (s₂.map (fun j => s₁[j]!)) r := by
  have houts := map_outAt_sel (fun (j : Nat) => outAt r.outs (j : Int)) h₂
  cases hks : r.keys with
  | error e => simp only [Ref.slice, hks, houts, List.length_map]; rfl
  | ok ks =>
    have hk₁ : ∀ j ∈ s₁, j < ks.length := by rw [hw.keysLen hi ks hks]; exact h₁
    have hk₂ : ∀ j ∈ s₂.map (fun j => s₁[j]!), j < ks.length := by
      intro i hi
      obtain ⟨j, hj, rfl⟩ := List.mem_map.mp hi
      exact getElem!_mem_lt hk₁ (h₂ j hj)
    -- with the three key tables computed (`selectKeys_ok_eq`) the two records differ only in `kstream`
    -- and `keys`; there, position `j` of `ds[s₁]` carries the outcome and the key of position `s₁[j]` of `ds`
    simp only [Ref.slice, hks, houts, List.length_map, selectKeys_ok_eq ks s₁ hk₁,
      selectKeys_ok_eq (s₁.map fun j => ks[j]?.getD "") s₂ (by rwa [List.length_map]),
      selectKeys_ok_eq ks _ hk₂, Ref.selectK, List.map_map, RefDS.mk.injEq, true_and, and_true]
    refine ⟨congrArg _ (List.map_congr_left fun j hj => ?_), congrArg _ (List.map_congr_left fun j hj => ?_)⟩
    · have hj' := h₂ j hj
      simp only [Function.comp, pyIndex_map_lt _ hj', outAt_map_lt _ hj', pyIndex_getD (getElem!_mem_lt hk₁ hj')]
    · have hj' := h₂ j hj
      simp only [Function.comp, List.getElem?_map, List.getElem?_eq_getElem hj', getElem!_pos s₁ j hj',
        Option.map_some, Option.getD_some]

example : (Ref.slice [2, 0] (Ref.slice [3, 1, 0] dsrc)).kstream = ⟨[("a", .int 1), ("d", .int 4)], none⟩ ∧
    (Ref.slice ([2, 0].map (fun j => [3, 1, 0][j]!)) dsrc).kstream = ⟨[("a", .int 1), ("d", .int 4)], none⟩ :=
  ⟨by rfl, by rfl⟩

/-- C16, as the library computes it: for any two index expressions (Python slices, index lists,
    masks, key lists) `ds[spec₁][spec₂]` is `ds[sel]` for the composed selection
    `sel = sliceList s₁ s₂ = [s₁[j] for j in s₂]`, which stays in range. -/
theorem C16_slice_slice_spec {r r₁ r₂ : RefDS} (hw : RefWF2 r) {spec₁ spec₂ : SliceSpec}
    (h1 : Ref.mkSlice spec₁ r = .ok r₁) (h2 : Ref.mkSlice spec₂ r₁ = .ok r₂) :
    ∃ s₁ s₂, resolveSlice r.outs.length r.keys spec₁ = .ok s₁ ∧
      resolveSlice s₁.length r₁.keys spec₂ = .ok s₂ ∧
      r₁ = Ref.slice s₁ r ∧ r₂ = Ref.slice (sliceList s₁ s₂) r ∧
      (∀ j ∈ sliceList s₁ s₂, j < r.outs.length) := by
  obtain ⟨hi, s₁, hs₁, hlt₁, rfl⟩ := mkSlice_ok_wf hw.sized h1
  obtain ⟨_, s₂, hs₂, hlt₂, rfl⟩ := mkSlice_ok_wf (wf2_slice s₁ r).sized h2
  simp only [Ref.slice, List.length_map] at hs₂ hlt₂
  refine ⟨s₁, s₂, hs₁, hs₂, rfl, ?_, sliceList_sel_lt hlt₁⟩
  rw [C16_slice_slice hw hi hlt₁ hlt₂, sliceList_eq_map hlt₂]

example : (Ref.mkSlice (.idx [3, 1, 0]) dsrc >>= Ref.mkSlice (.idx [2, 0])).map (fun r => (r.keys, r.stream))
    = .ok (.ok ["a", "d"], ⟨[.int 1, .int 4], none⟩) := by rfl

/-- C16 for Python range slices: `ds[a:b:c][a':b':c']` is `ds[sel]` where `sel` is the list slice
    `range(n)[a:b:c][a':b':c']` (`slice_slice` of `PySliceLemmas` is the same fact on plain lists). -/
theorem C16_slice_slice_range {r r₁ r₂ : RefDS} (hw : RefWF2 r) {a b c a' b' c' : Option Int}
    (h1 : Ref.mkSlice (.range a b c) r = .ok r₁) (h2 : Ref.mkSlice (.range a' b' c') r₁ = .ok r₂) :
    ∃ s₁ s₂, pySliceIdx r.outs.length a b c = .ok s₁ ∧ pySliceIdx s₁.length a' b' c' = .ok s₂ ∧
      r₂ = Ref.slice (sliceList s₁ s₂) r := by
  obtain ⟨s₁, s₂, hs₁, hs₂, _, hr₂, _⟩ := C16_slice_slice_spec hw h1 h2
  exact ⟨s₁, s₂, hs₁, hs₂, hr₂⟩

example : ((Ref.mkSlice (.range (some 1) (some 5) none) src >>= Ref.mkSlice (.range none none (some 2))).map
      (·.stream)) = .ok ⟨[.int 2, .int 4], none⟩ ∧
    sliceList [1, 2, 3, 4] [0, 2] = [1, 3] ∧
    (Ref.slice [1, 3] src).stream = ⟨[.int 2, .int 4], none⟩ := ⟨by rfl, by rfl, by rfl⟩

/-! ### 4. `map` distributes over slicing, shuffling, sharding, sorting -/

/-- C16: `ds.map(f)[sel]` is `ds[sel].map(f)`: both evaluate `f` only on the selected examples
    (no hypothesis on `r`, `f` may raise). -/
theorem C16_map_slice (f : Val → Res Val) (sel : List Nat) (r : RefDS) :
    Ref.slice sel (Ref.map f r) = Ref.map f (Ref.slice sel r) := by
  simp only [Ref.slice, Ref.map, Stream.ofOuts_mapM, List.map_map, Function.comp_def, outAt_map_bind, selectK_map]

example : (Ref.slice [4, 0] (Ref.map inc src)).stream = ⟨[.int 6, .int 2], none⟩ ∧
    (Ref.map inc (Ref.slice [4, 0] src)).stream = ⟨[.int 6, .int 2], none⟩ := ⟨by rfl, by rfl⟩
/-- the failing third example is not selected, so neither side raises -/
example : (Ref.slice [1, 0] (Ref.map failOn3 src)).outs = [.ok (.int 2), .ok (.int 1)] ∧
    (Ref.map failOn3 (Ref.slice [1, 0] src)).outs = [.ok (.int 2), .ok (.int 1)] := ⟨by rfl, by rfl⟩

/-- C16: the same through the constructor `ds[spec]`: it fails on one side iff on the other (with the
    same exception), because the selection depends only on `len` and `keys`. -/
theorem C16_map_mkSlice (f : Val → Res Val) (spec : SliceSpec) (r : RefDS) :
    Ref.mkSlice spec (Ref.map f r) = (Ref.mkSlice spec r).map (Ref.map f) := by
  unfold Ref.mkSlice
  cases hi : r.indexable with
  | false => rw [Ref.map_indexable, hi]; rfl
  | true =>
    rw [Ref.map_indexable, hi]
    exact bind_congr_map fun n => bind_congr_map fun sel => congrArg Except.ok (C16_map_slice f sel r)

example : (Ref.mkSlice (.range none none (some (-2))) (Ref.map inc src)).map (·.stream)
    = .ok ⟨[.int 6, .int 4, .int 2], none⟩ := by rfl

/-- C16: `map` commutes with one-time shuffling (`ds.map(f).shuffle()` with the permutation the
    generator produced). -/
theorem C16_map_shuffle (f : Val → Res Val) (perm : List Nat) (r : RefDS) :
    Ref.mkShuffleOnce perm (Ref.map f r) = (Ref.mkShuffleOnce perm r).map (Ref.map f) :=
  bind_congr_map fun _ => C16_map_mkSlice f _ r

example : (Ref.mkShuffleOnce [3, 0, 4, 1, 2] (Ref.map inc src)).map (·.stream)
    = .ok ⟨[.int 5, .int 2, .int 6, .int 3, .int 4], none⟩ := by rfl

/-- C16: `map` commutes with `split(k)` … -/
theorem C16_map_split (f : Val → Res Val) (k : Int) (r : RefDS) :
    Ref.mkSplit k (Ref.map f r) = (Ref.mkSplit k r).map (List.map (Ref.map f)) := by
  unfold Ref.mkSplit
  by_cases hk : k < 1
  · rw [if_pos hk, if_pos hk]; rfl
  · rw [if_neg hk, if_neg hk]
    refine bind_congr_map fun n => ?_
    by_cases hn : k > (n : Int)
    · rw [if_pos hn, if_pos hn]; rfl
    · rw [if_neg hn, if_neg hn]
      simp only [C16_map_mkSlice, List.mapM_map_result]

example : (Ref.mkSplit 2 (Ref.map inc src)).map (·.map (·.stream.vals))
    = .ok [[.int 2, .int 3, .int 4], [.int 5, .int 6]] := by rfl

/-- C16: … and with `shard(k, i)`. -/
theorem C16_map_shard (f : Val → Res Val) (k i : Int) (r : RefDS) :
    Ref.mkShard k i (Ref.map f r) = (Ref.mkShard k i r).map (Ref.map f) := by
  unfold Ref.mkShard
  rw [C16_map_split]
  cases Ref.mkSplit k r with
  | error e => rfl
  | ok parts => simp only [Except.map, ok_bind, pyIndex_map]

example : (Ref.mkShard 2 1 (Ref.map inc src)).map (·.stream) = .ok ⟨[.int 5, .int 6], none⟩ ∧
    ((Ref.mkShard 2 1 src).map (Ref.map inc)).map (·.stream) = .ok ⟨[.int 5, .int 6], none⟩ :=
  ⟨by rfl, by rfl⟩

/-- C16: `map` commutes with sorting by key (`ds.sort()`), which does not look at the examples. -/
theorem C16_map_sort_keys (f : Val → Res Val) (rev : Bool) (r : RefDS) :
    Ref.mkSort none rev (Ref.map f r) = (Ref.mkSort none rev r).map (Ref.map f) := by
  unfold Ref.mkSort
  simp only [Ref.map_keys]
  cases r.keys with
  | error e => simp only []; split <;> rfl
  | ok ks => exact C16_map_mkSlice f _ r

/-- (`mergeSort` does not reduce by `rfl`: the example is the instance of the law) -/
example : Ref.mkSort none true (Ref.map inc dsrc) = (Ref.mkSort none true dsrc).map (Ref.map inc) :=
  C16_map_sort_keys inc true dsrc

/-- C16: `map` commutes with sorting by a key function that does not depend on the mapped value:
    if `f` succeeds on the iterated examples and `key (f v) = key' v`, then
    `ds.map(f).sort(key)` is `ds.sort(key').map(f)`. -/
theorem C16_map_sort_key (f key key' : Val → Res Val) (rev : Bool) (r : RefDS)
    (hf : ∀ v ∈ r.stream.vals, ∃ w, f v = .ok w ∧ key w = key' v) :
    Ref.mkSort (some key) rev (Ref.map f r) = (Ref.mkSort (some key') rev r).map (Ref.map f) := by
  have hs : (Ref.map f r).stream = ⟨r.stream.vals.map (okVal f), r.stream.err⟩ :=
    Stream.mapM_total f _ _ fun v hv => by obtain ⟨w, hw, _⟩ := hf v hv; exact okVal_eq hw
  have hk : (r.stream.vals.map (okVal f)).mapM key = r.stream.vals.mapM key' := by
    rw [List.mapM_map]
    exact List.mapM_congr_left fun v hv => by
      obtain ⟨w, hw, hk⟩ := hf v hv
      rw [Function.comp, okVal, hw, hk]
  simp only [Ref.mkSort, hs, hk, streamToRes]
  refine bind_congr_map fun kv => ?_
  cases r.stream.err with
  | some e => rfl
  | none =>
    rw [ok_bind, ok_bind]
    cases asInts kv with
    | some is => exact C16_map_mkSlice f _ r
    | none =>
      cases asStrs kv with
      | some ss => exact C16_map_mkSlice f _ r
      | none =>
        by_cases h : kv.length ≤ 1
        · rw [if_pos h, if_pos h]; exact C16_map_mkSlice f _ r
        · rw [if_neg h, if_neg h]; rfl

example : Ref.mkSort (some inc) true (Ref.map times10 src)
    = (Ref.mkSort (some (fun v => times10 v >>= inc)) true src).map (Ref.map times10) :=
  C16_map_sort_key times10 inc _ true src (by
    intro v hv
    simp only [src, xs, Ref.listSrc, Stream.ofList, List.mem_cons, List.not_mem_nil, or_false] at hv
    rcases hv with rfl | rfl | rfl | rfl | rfl <;> exact ⟨_, rfl, rfl⟩)

/-! ### 5. `map` distributes over concatenation -/

/-- C16: `concatenate(a, b, …).map(f)` is `concatenate(a.map(f), b.map(f), …)`. -/
theorem C16_map_concat (f : Val → Res Val) (rs : List RefDS) :
    Ref.map f (Ref.concat rs) = Ref.concat (rs.map (Ref.map f)) := by
  -- field by field; the stream field is `Stream.mapM_append` pushed through the fold
  simp only [Ref.map, Ref.concat, Ref.concatKeys, List.all_map, List.map_flatten, List.map_map,
    List.foldr_map, List.mapM_map, sumLens_map,
    foldr_append_hom (Stream.mapM _) rfl (Stream.mapM_append _)]
  rfl

example : (Ref.map inc (Ref.concat [src, bad])).stream
      = ⟨[.int 2, .int 3, .int 4, .int 5, .int 6, .int 2, .int 3], some .valueError⟩ ∧
    (Ref.concat [Ref.map inc src, Ref.map inc bad]).stream
      = ⟨[.int 2, .int 3, .int 4, .int 5, .int 6, .int 2, .int 3], some .valueError⟩ := ⟨by rfl, by rfl⟩

/-! ### 6. `map` and `batch` -/

/-- C16, positional: `ds.map(f).batch(n)[i]` is `ds.batch(n).map(batchMap f)[i]` provided that, *if
    some example of `ds` fails, `f` succeeds on the other examples* (`MapBatchOk`); in particular when no
    example of `ds` fails, or when `f` never raises. -/
theorem C16_map_batch_partial {f : Val → Res Val} {r : RefDS} (n : Nat) (dl : Bool)
    (h : MapBatchOk f r.outs) :
    (Ref.batch n dl (Ref.map f r)).outs = (Ref.map (batchMap f) (Ref.batch n dl r)).outs :=
  map_batch_outs n dl fun _ hc v e hv he => h v e (batches_mem hc _ hv) (batches_mem hc _ he)

/-- … when every positional outcome of `ds` is a value (`f` may raise) -/
theorem C16_map_batch_allOk {f : Val → Res Val} {r : RefDS} (n : Nat) (dl : Bool)
    (h : ∀ o ∈ r.outs, ∃ v, o = .ok v) :
    (Ref.batch n dl (Ref.map f r)).outs = (Ref.map (batchMap f) (Ref.batch n dl r)).outs :=
  C16_map_batch_partial n dl fun _ e _ he => by obtain ⟨_, h'⟩ := h _ he; cases h'

/-- … when `f` never raises (examples of `ds` may fail) -/
theorem C16_map_batch_total {f : Val → Res Val} {r : RefDS} (n : Nat) (dl : Bool)
    (h : ∀ v, ∃ w, f v = .ok w) :
    (Ref.batch n dl (Ref.map f r)).outs = (Ref.map (batchMap f) (Ref.batch n dl r)).outs :=
  C16_map_batch_partial n dl fun v _ _ _ => h v

example : (Ref.batch 2 false (Ref.map failOn3 src)).outs
      = [.ok (.list [.int 1, .int 2]), .error .valueError, .ok (.list [.int 5])] ∧
    (Ref.map (batchMap failOn3) (Ref.batch 2 false src)).outs
      = [.ok (.list [.int 1, .int 2]), .error .valueError, .ok (.list [.int 5])] := ⟨by rfl, by rfl⟩

/-- The unrestricted positional law is false: in the batch `[1, 2, <ValueError>]`, mapping first
    raises the `TypeError` of `f(1)`, batching first raises the `ValueError` of the third example. -/
theorem C16_map_batch_counterexample :
    ∃ (f : Val → Res Val) (r : RefDS) (n : Nat) (dl : Bool), 1 ≤ n ∧
      (Ref.batch n dl (Ref.map f r)).outs ≠ (Ref.map (batchMap f) (Ref.batch n dl r)).outs := by
  refine ⟨boom, bad, 3, false, by decide, ?_⟩
  intro h
  have h1 : (Ref.batch 3 false (Ref.map boom bad)).outs = [.error .typeError] := by rfl
  have h2 : (Ref.map (batchMap boom) (Ref.batch 3 false bad)).outs = [.error .valueError] := by rfl
  rw [h1, h2] at h
  cases h

/-- C16 (`batch_map`), iteration: without `drop_last`, on an input that ends normally,
    `ds.map(f).batch(n)` iterates like `ds.batch(n).map(batchMap f)` even when `f` raises: both
    deliver the batches before the failing example's batch and raise the same exception. -/
theorem C16_map_batch_stream_partial {n : Nat} (hn : 1 ≤ n) (f : Val → Res Val) (r : RefDS)
    (he : r.stream.err = none) :
    (Ref.batch n false (Ref.map f r)).stream = (Ref.map (batchMap f) (Ref.batch n false r)).stream :=
  bsAux_mapM f r.stream [] (.inl ⟨rfl, he⟩) (fun _ h => nomatch h) hn

example : (Ref.batch 2 false (Ref.map failOn3 src)).stream = ⟨[.list [.int 1, .int 2]], some .valueError⟩ ∧
    (Ref.map (batchMap failOn3) (Ref.batch 2 false src)).stream
      = ⟨[.list [.int 1, .int 2]], some .valueError⟩ := ⟨by rfl, by rfl⟩

/-- C16 (`batch_map`), iteration: when `f` succeeds on every iterated example the law holds for
    every `drop_last` and however the input ends. -/
theorem C16_map_batch_stream_total {n : Nat} (hn : 1 ≤ n) (dl : Bool) (f : Val → Res Val) (r : RefDS)
    (h : ∀ v ∈ r.stream.vals, ∃ w, f v = .ok w) :
    (Ref.batch n dl (Ref.map f r)).stream = (Ref.map (batchMap f) (Ref.batch n dl r)).stream :=
  bsAux_mapM f r.stream [] (.inr fun v hv => by obtain ⟨w, hw⟩ := h v hv; exact okVal_eq hw)
    (fun _ h => nomatch h) hn

example : (Ref.batch 2 true (Ref.map inc bad)).stream = ⟨[.list [.int 2, .int 3]], some .valueError⟩ ∧
    (Ref.map (batchMap inc) (Ref.batch 2 true bad)).stream
      = ⟨[.list [.int 2, .int 3]], some .valueError⟩ := ⟨by rfl, by rfl⟩

/-- With `drop_last` the iteration law is false when `f` raises on the dropped tail:
    `[1, 2, 3].map(failOn3).batch(2, drop_last=True)` raises after `[1, 2]`, while
    `[1, 2, 3].batch(2, drop_last=True).map(…)` never evaluates `f(3)` and ends normally. -/
theorem C16_map_batch_stream_counterexample :
    ∃ (f : Val → Res Val) (r : RefDS) (n : Nat), 1 ≤ n ∧ r.stream.err = none ∧
      (Ref.batch n true (Ref.map f r)).stream ≠ (Ref.map (batchMap f) (Ref.batch n true r)).stream := by
  refine ⟨failOn3, Ref.listSrc [.int 1, .int 2, .int 3], 2, by decide, rfl, ?_⟩
  intro h
  have h1 : (Ref.batch 2 true (Ref.map failOn3 (Ref.listSrc [.int 1, .int 2, .int 3]))).stream
      = ⟨[.list [.int 1, .int 2]], some .valueError⟩ := by rfl
  have h2 : (Ref.map (batchMap failOn3) (Ref.batch 2 true (Ref.listSrc [.int 1, .int 2, .int 3]))).stream
      = ⟨[.list [.int 1, .int 2]], none⟩ := by rfl
  rw [h1, h2] at h
  cases h

/-- … and without `drop_last` it is false when the input raises inside a batch on whose earlier
    examples `f` raises: mapping first raises `f`'s exception, batching first the input's. -/
theorem C16_map_batch_stream_counterexample_err :
    ∃ (f : Val → Res Val) (r : RefDS) (n : Nat), 1 ≤ n ∧
      (Ref.batch n false (Ref.map f r)).stream ≠ (Ref.map (batchMap f) (Ref.batch n false r)).stream := by
  refine ⟨boom, bad, 3, by decide, ?_⟩
  intro h
  have h1 : (Ref.batch 3 false (Ref.map boom bad)).stream = ⟨[], some .typeError⟩ := by rfl
  have h2 : (Ref.map (batchMap boom) (Ref.batch 3 false bad)).stream = ⟨[], some .valueError⟩ := by rfl
  rw [h1, h2] at h
  cases h

/-! ### 7. `map` and `cache` -/

/-- C16: `ds.map(f).cache()` and `ds.cache().map(f)` are the same dataset (unconditionally). -/
theorem C16_map_cache (f : Val → Res Val) (r : RefDS) :
    Ref.cache (Ref.map f r) = Ref.map f (Ref.cache r) := by
  simp only [Ref.cache, Ref.map, List.length_map]
  cases r.len with
  | error e => cases r.keys <;> rfl
  | ok n =>
    cases r.keys with
    | error e => simp only [Stream.ofOuts_mapM]; rfl
    | ok ks => simp only [Stream.ofOuts_mapM, List.map_map, Function.comp_def, rowK_map]

/-- C16: on an indexable dataset that iterates its positions in order, caching after the map does not
    change what iteration yields. -/
theorem C16_map_cache_stream (f : Val → Res Val) {r : RefDS} (hw : RefWF2 r) (hi : r.indexable = true)
    (hs : r.stream = .ofOuts r.outs) :
    (Ref.cache (Ref.map f r)).stream = (Ref.map f r).stream := by
  simp only [Ref.cache, Ref.map, hw.lenOuts hi, hs, Stream.ofOuts_mapM]

example : (Ref.cache (Ref.map failOn3 src)).stream = ⟨[.int 1, .int 2], some .valueError⟩ ∧
    (Ref.map failOn3 (Ref.cache src)).stream = ⟨[.int 1, .int 2], some .valueError⟩ := ⟨by rfl, by rfl⟩

/-! ### 8. `map` fusion -/

/-- C16: `ds.map(f).map(g)` is `ds.map(lambda x: g(f(x)))` (every field; `f`, `g` may raise). -/
theorem C16_map_map (f g : Val → Res Val) (r : RefDS) :
    Ref.map g (Ref.map f r) = Ref.map (fun v => f v >>= g) r := by
  simp only [Ref.map, Stream.mapM_mapM, map_bind_bind, onSnd_bind]

example : (Ref.map failOn3 (Ref.map inc src)).stream = ⟨[.int 2], some .valueError⟩ ∧
    (Ref.map (fun v => inc v >>= failOn3) src).stream = ⟨[.int 2], some .valueError⟩ := ⟨by rfl, by rfl⟩

/-! ### 9. filter commutes with order-preserving selection -/

/-- C16 on plain lists: filtering a selection is selecting by the filtered index list (for any
    index list, increasing or not). -/
theorem C16_filter_select_list {α} [Inhabited α] (l : List α) (p : α → Bool) (sel : List Nat) :
    (sliceList l sel).filter p = sliceList l (sel.filter (fun j => p l[j]!)) := by
  simp only [sliceList, List.filter_filterMap, List.filterMap_filter]
  congr 1; funext j
  by_cases h : j < l.length
  · simp only [List.getElem?_eq_getElem h, getElem!_pos l j h, Option.filter_some]
  · rw [List.getElem?_eq_none (Nat.le_of_not_lt h)]; split <;> rfl

example : (sliceList [10, 11, 12, 13, 14] [4, 1, 3]).filter (· % 2 == 1) = [11, 13] ∧
    sliceList [10, 11, 12, 13, 14] ([4, 1, 3].filter (fun j => [10, 11, 12, 13, 14][j]! % 2 == 1)) = [11, 13] := by
  decide

/-- C16 on plain lists: `filter` itself is the selection of the positions that satisfy the
    predicate, and for a strictly increasing selection it does not matter whether one first filters
    the positions by the predicate and then keeps those of `sel`, or the other way round. -/
theorem C16_filter_select_comm {α} [Inhabited α] (l : List α) (p : α → Bool) {sel : List Nat}
    (hs : sel.Pairwise (· < ·)) (hlt : ∀ j ∈ sel, j < l.length) :
    l.filter p = sliceList l ((List.range l.length).filter (fun j => p l[j]!)) ∧
    (sliceList l sel).filter p
      = sliceList l (((List.range l.length).filter (fun j => p l[j]!)).filter (sel.contains ·)) := by
  refine ⟨by rw [← C16_filter_select_list, sliceList_range], ?_⟩
  rw [C16_filter_select_list, filter_select_comm l p hs hlt]

example : (sliceList [10, 11, 12, 13, 14] [1, 3, 4]).filter (· % 2 == 1) = [11, 13] ∧
    sliceList [10, 11, 12, 13, 14]
      (((List.range 5).filter (fun j => [10, 11, 12, 13, 14][j]! % 2 == 1)).filter ([1, 3, 4].contains ·))
      = [11, 13] := by decide

/-- C16: lazily filtering a slice of a dataset whose examples all evaluate (to `vs`), with a
    predicate that does not raise on them, yields the values of `ds` at the positions of `sel` that
    satisfy the predicate, in the order of `sel`, and ends normally. -/
theorem C16_filter_select {r : RefDS} {vs : List Val} {sel : List Nat} {p : Val → Res Bool} {q : Val → Bool}
    (hok : r.outs = vs.map .ok) (hp : ∀ v ∈ vs, p v = .ok (q v)) (hsel : ∀ j ∈ sel, j < vs.length) :
    (Ref.filter p (Ref.slice sel r)).stream = ⟨sliceList vs (sel.filter (fun j => q vs[j]!)), none⟩ := by
  rw [← C16_filter_select_list]
  simp only [Ref.slice, hok, slice_outs_ok hsel, Stream.ofOuts_map_ok]
  refine Stream.filterM_total p q _ fun v hv => hp v ?_
  obtain ⟨j, _, hj⟩ := List.mem_filterMap.mp hv
  exact List.mem_of_getElem? hj

/-- C16: … and for an order-preserving (strictly increasing) selection these are the examples that
    `ds.filter(p)` yields (`vs.filter q`) whose position belongs to `sel`: filter commutes with
    order-preserving selection. -/
theorem C16_filter_select_sorted {r : RefDS} {vs : List Val} {sel : List Nat} {p : Val → Res Bool}
    {q : Val → Bool} (hok : r.outs = vs.map .ok) (hp : ∀ v ∈ vs, p v = .ok (q v))
    (hsel : ∀ j ∈ sel, j < vs.length) (hs : sel.Pairwise (· < ·)) (hstream : r.stream = .ofOuts r.outs) :
    (Ref.filter p r).stream = ⟨sliceList vs ((List.range vs.length).filter (fun j => q vs[j]!)), none⟩ ∧
    (Ref.filter p (Ref.slice sel r)).stream
      = ⟨sliceList vs (((List.range vs.length).filter (fun j => q vs[j]!)).filter (sel.contains ·)), none⟩ := by
  refine ⟨?_, ?_⟩
  · simp only [Ref.filter, hstream, hok, Stream.ofOuts_map_ok]
    rw [Stream.filterM_total p q _ hp, (C16_filter_select_comm vs q hs hsel).1]
  · rw [C16_filter_select hok hp hsel, filter_select_comm vs q hs hsel]

example : (Ref.filter (fun v => .ok (isOdd v)) (Ref.slice [0, 1, 4] src)).stream = ⟨[.int 1, .int 5], none⟩ ∧
    (Ref.filter (fun v => .ok (isOdd v)) src).stream = ⟨[.int 1, .int 3, .int 5], none⟩ := ⟨by rfl, by rfl⟩

/-! ### 10. `tile` -/

/-- C16: `ds.tile(n)` is the `n`-fold concatenation `concatenate(ds, …, ds)` (for `n = 0` the two
    raise different exceptions). -/
theorem C16_tile_eq_concat (r : RefDS) {n : Nat} (hn : 1 ≤ n) :
    Ref.mkTile n r = Ref.mkConcat (List.replicate n r) := by
  match n, hn with
  | 1, _ => rfl
  | _ + 2, _ => rfl

example : (Ref.mkTile 2 (Ref.listSrc [.int 1, .int 2])).map (·.stream)
    = .ok ⟨[.int 1, .int 2, .int 1, .int 2], none⟩ := by rfl

/-! ### 11. the laws on the model of the lazy code

`build ρ p` is the model of the dataset object that the library constructs for the pipeline `p`
(index walks, `try/except IndexError`, generator loops).  `ObsEq d₁ d₂` says that the two model
datasets agree on `iter`, `iterK`, `len`, `keys`, `indexable` and on `getInt` when indexable. -/

/-- C16, transfer principle (through `build_ref`): admissible pipelines with the same reference
    semantics build observationally equal datasets. -/
theorem C16_model_transfer {ρ : Env} (hρ : EnvOK ρ) {p₁ p₂ : Pipeline} (ha₁ : Adm ρ p₁) (ha₂ : Adm ρ p₂)
    (h : ref ρ p₁ = ref ρ p₂) {d₁ d₂ : DS} (h₁ : build ρ p₁ = .ok d₁) (h₂ : build ρ p₂ = .ok d₂) :
    ObsEq d₁ d₂ :=
  (obsEq_of_ref_eq hρ h₁ h₂ ha₁ ha₂ h).2

/-- C16 on the model: `ds.map(f)[s]` and `ds[s].map(f)` iterate alike (and agree on `len`, `keys`,
    items and integer indexing). -/
theorem C16_model_map_slice {ρ : Env} (hρ : EnvOK ρ) {p : Pipeline} (ha : Adm ρ p) (f : FnSym) (s : SliceSpec)
    {d₁ d₂ : DS} (h₁ : build ρ (.slice s (.map f p)) = .ok d₁) (h₂ : build ρ (.map f (.slice s p)) = .ok d₂) :
    d₁.iter = d₂.iter ∧ ObsEq d₁ d₂ :=
  obsEq_of_ref_eq hρ h₁ h₂ ha ha (ref_comm (C16_map_mkSlice _ s))

example : ((build menuEnv (.slice (.idx [3, 0]) (.map (.add 1) (.listSrc xs)))).map (·.iter)
    = .ok ⟨[.int 5, .int 2], none⟩) ∧
    ((build menuEnv (.map (.add 1) (.slice (.idx [3, 0]) (.listSrc xs)))).map (·.iter)
    = .ok ⟨[.int 5, .int 2], none⟩) := ⟨by rfl, by rfl⟩

/-- C16 on the model: `ds.map(f).shuffle()` and `ds.shuffle().map(f)` (same permutation). -/
theorem C16_model_map_shuffle {ρ : Env} (hρ : EnvOK ρ) {p : Pipeline} (ha : Adm ρ p) (f : FnSym)
    (perm : List Nat) {d₁ d₂ : DS} (h₁ : build ρ (.shuffleOnce perm (.map f p)) = .ok d₁)
    (h₂ : build ρ (.map f (.shuffleOnce perm p)) = .ok d₂) :
    d₁.iter = d₂.iter ∧ ObsEq d₁ d₂ :=
  obsEq_of_ref_eq hρ h₁ h₂ ha ha (ref_comm (C16_map_shuffle _ perm))

example : ((build menuEnv (.shuffleOnce [2, 0, 1] (.map (.add 1) (.listSrc [.int 1, .int 2, .int 3])))).map
    (·.iter) = .ok ⟨[.int 4, .int 2, .int 3], none⟩) := by rfl

/-- C16 on the model: `ds.map(f).shard(k, i)` and `ds.shard(k, i).map(f)`. -/
theorem C16_model_map_shard {ρ : Env} (hρ : EnvOK ρ) {p : Pipeline} (ha : Adm ρ p) (f : FnSym) (k i : Int)
    {d₁ d₂ : DS} (h₁ : build ρ (.shard k i (.map f p)) = .ok d₁)
    (h₂ : build ρ (.map f (.shard k i p)) = .ok d₂) :
    d₁.iter = d₂.iter ∧ ObsEq d₁ d₂ :=
  obsEq_of_ref_eq hρ h₁ h₂ ha ha (ref_comm (C16_map_shard _ k i))

example : ((build menuEnv (.shard 2 1 (.map (.add 1) (.listSrc xs)))).map (·.iter)
    = .ok ⟨[.int 5, .int 6], none⟩) := by rfl

/-- C16 on the model: `ds.map(f).cache()` and `ds.cache().map(f)`. -/
theorem C16_model_map_cache {ρ : Env} (hρ : EnvOK ρ) {p : Pipeline} (ha : Adm ρ p) (f : FnSym)
    {d₁ d₂ : DS} (h₁ : build ρ (.cache (.map f p)) = .ok d₁) (h₂ : build ρ (.map f (.cache p)) = .ok d₂) :
    d₁.iter = d₂.iter ∧ ObsEq d₁ d₂ :=
  obsEq_of_ref_eq hρ h₁ h₂ ha ha (ref_comm fun r => by
    unfold Ref.mkCache
    rw [Ref.map_indexable]
    cases r.indexable with
    | false => rfl
    | true => exact congrArg _ (C16_map_cache _ r))

example : ((build menuEnv (.cache (.map (.raiseIfMod 3 0 .valueError) (.listSrc xs)))).map (·.iter)
    = .ok ⟨[.int 1, .int 2], some .valueError⟩) := by rfl

/-- C16 on the model: `ds.map(f).map(g)` and `ds.map(h)` when `h` is the composition of `f` and `g`. -/
theorem C16_model_map_map {ρ : Env} (hρ : EnvOK ρ) {p : Pipeline} (ha : Adm ρ p) (f g h : FnSym)
    (hh : ∀ v, ρ.fn h v = (ρ.fn f v >>= ρ.fn g))
    {d₁ d₂ : DS} (h₁ : build ρ (.map g (.map f p)) = .ok d₁) (h₂ : build ρ (.map h p) = .ok d₂) :
    d₁.iter = d₂.iter ∧ ObsEq d₁ d₂ :=
  obsEq_of_ref_eq hρ h₁ h₂ ha ha
    (ref_fuse fun r => (C16_map_map _ _ r).trans (congrArg (Ref.map · r) (funext hh).symm))

example : ((build menuEnv (.map (.add 2) (.map (.add 1) (.listSrc xs)))).map (·.iter)
    = (build menuEnv (.map (.add 3) (.listSrc xs))).map (·.iter)) :=
  (by rfl : _ = Except.ok (⟨[.int 4, .int 5, .int 6, .int 7, .int 8], none⟩ : Stream Val)).trans (by rfl)

/-- C16 on the model: `concatenate(a, b).map(f)` and `concatenate(a.map(f), b.map(f))`. -/
theorem C16_model_map_concat {ρ : Env} (hρ : EnvOK ρ) {p q : Pipeline} (hp : Adm ρ p) (hq : Adm ρ q)
    (f : FnSym) {d₁ d₂ : DS}
    (h₁ : build ρ (.map f (.concat (.cons p (.cons q .nil)))) = .ok d₁)
    (h₂ : build ρ (.concat (.cons (.map f p) (.cons (.map f q) .nil))) = .ok d₂) :
    d₁.iter = d₂.iter ∧ ObsEq d₁ d₂ :=
  obsEq_of_ref_eq hρ h₁ h₂ ⟨hp, hq, trivial⟩ ⟨hp, hq, trivial⟩ (by
    simp only [ref, refAll]
    cases ref ρ p with
    | error e => rfl
    | ok r => cases ref ρ q with
      | error e => rfl
      | ok r' => exact congrArg Except.ok (C16_map_concat _ [r, r']))

example : ((build menuEnv (.map (.add 1) (.concat (.cons (.listSrc [.int 1]) (.cons (.listSrc [.int 5]) .nil))))).map
    (·.iter) = .ok ⟨[.int 2, .int 6], none⟩) := by rfl

/-- C16 on the model: `ds.tile(n)` builds literally the dataset of the `n`-fold concatenation (no
    side condition: both are the same `ConcatenateDataset`). -/
theorem C16_model_tile_concat (ρ : Env) (p : Pipeline) {n : Nat} (hn : 1 ≤ n) :
    build ρ (.tile n p) = build ρ (.concat (Pipelines.ofList (List.replicate n p))) := by
  cases n with
  | zero => cases hn
  | succ m =>
    simp only [build, buildAll_replicate]
    cases build ρ p with
    | error e => rfl
    | ok d => cases m <;> rfl

example : ((build menuEnv (.tile 2 (.listSrc [.int 1, .int 2]))).map (·.iter)
    = .ok ⟨[.int 1, .int 2, .int 1, .int 2], none⟩) := by rfl

/-- C16 on the model: `ds[s₁][s₂]` is observationally `ds[sel]` for the composed selection
    `sel = [sel₁[j] for j in sel₂]`; the latter builds whenever the former does. -/
theorem C16_model_slice_slice {ρ : Env} (hρ : EnvOK ρ) {p : Pipeline} (ha : Adm ρ p) {s₁ s₂ : SliceSpec}
    {d₂ : DS} (h₂ : build ρ (.slice s₂ (.slice s₁ p)) = .ok d₂) :
    ∃ r sel₁ sel₂ d₃, ref ρ p = .ok r ∧
      resolveSlice r.outs.length r.keys s₁ = .ok sel₁ ∧
      resolveSlice sel₁.length (Ref.slice sel₁ r).keys s₂ = .ok sel₂ ∧
      build ρ (.slice (.idx ((sliceList sel₁ sel₂).map Int.ofNat)) p) = .ok d₃ ∧
      d₂.iter = d₃.iter ∧ ObsEq d₂ d₃ := by
  obtain ⟨r₂, hr₂, hrel₂⟩ := build_ref ρ hρ (.slice s₂ (.slice s₁ p)) ha d₂ h₂
  obtain ⟨r₁, hr₁', hr₂⟩ := bind_eq_ok.mp hr₂
  obtain ⟨r, hr, hr₁⟩ := bind_eq_ok.mp hr₁'
  have hw := ref_wf ρ p ha r hr
  obtain ⟨sel₁, sel₂, hs₁, hs₂, rfl, rfl, hlt⟩ := C16_slice_slice_spec hw hr₁ hr₂
  have hi := (mkSlice_ok_inv hr₁).1
  -- the composed slice has a reference, so it builds
  obtain ⟨d₃, hd₃, hrel₃⟩ := build_of_ref hρ (p := .slice (.idx ((sliceList sel₁ sel₂).map Int.ofNat)) p) ha
    (by simp only [ref, hr, ok_bind]; exact Ref.mkSlice_idx_ok hi (hw.lenOuts hi) hlt)
  have := obsEq_of_rel hrel₂ hrel₃
  exact ⟨r, sel₁, sel₂, d₃, hr, hs₁, hs₂, hd₃, this.iter, this⟩

example : ((build menuEnv (.slice (.range none none (some (-2))) (.slice (.range (some 1) (some 5) none)
      (.listSrc xs)))).map (·.iter) = .ok ⟨[.int 5, .int 3], none⟩) ∧
    ((build menuEnv (.slice (.idx [4, 2]) (.listSrc xs))).map (·.iter) = .ok ⟨[.int 5, .int 3], none⟩) :=
  ⟨by rfl, by rfl⟩

/-- C16 on the model: `ds.batch(n).unbatch()` iterates like `ds` whenever iterating `ds` ends
    normally. -/
theorem C16_model_batch_unbatch {ρ : Env} (hρ : EnvOK ρ) {p : Pipeline} (ha : Adm ρ p) {n : Nat} (hn : 1 ≤ n)
    {d d' : DS} (hd : build ρ p = .ok d) (he : d.iter.err = none)
    (hd' : build ρ (.unbatch (.batch n false p)) = .ok d') : d'.iter = d.iter := by
  obtain ⟨r, hr, hrel⟩ := build_ref ρ hρ p ha d hd
  have hrel' := build_rel hρ (p := .unbatch (.batch n false p)) ⟨ha, hn, fun _ _ _ h => nomatch h⟩ hd'
    (r := Ref.unbatch (Ref.batch n false r)) (by simp only [ref, hr, ok_bind])
  rw [hrel'.iter, hrel.iter, C16_batch_unbatch r hn (hrel.iter ▸ he)]

example : ((build menuEnv (.unbatch (.batch 2 false (.listSrc xs)))).map (·.iter) = .ok ⟨xs, none⟩) := by rfl

/-! ### 12. filter fusion and filter over concatenation (predicates may raise) -/

/-- C16: filter fusion. `ds.filter(f, lazy=True).filter(g, lazy=True)` is
    `ds.filter(lambda x: f(x) and g(x), lazy=True)` in every field, for predicates that may raise:
    `g` runs only on the examples `f` accepted, and the first exception of either ends the
    iteration at the same place. -/
theorem C16_filter_filter (f g : Val → Res Bool) (r : RefDS) :
    Ref.filter g (Ref.filter f r) = Ref.filter (andThenPred f g) r := by
  simp only [Ref.filter, Stream.filterM_filterM]; rfl

/-- C16: lazy filter distributes over concatenation (`f` may raise; a failure inside an earlier part
    hides the later parts on both sides): `concat(ds...).filter(f)` iterates, with and without
    keys, as `concat(d.filter(f) for d in ds)`. -/
theorem C16_filter_concat (f : Val → Res Bool) (rs : List RefDS) :
    (Ref.filter f (Ref.concat rs)).stream = (Ref.concat (rs.map (Ref.filter f))).stream ∧
    (Ref.filter f (Ref.concat rs)).kstream = (Ref.concat (rs.map (Ref.filter f))).kstream := by
  simp only [Ref.filter, Ref.concat, List.foldr_map,
    foldr_append_hom (Stream.filterM _) rfl (Stream.filterM_append _), and_self]

example : (Ref.filter (fun v => .ok (isOdd v)) (Ref.concat [src, bad])).stream
      = ⟨[.int 1, .int 3, .int 5, .int 1], some .valueError⟩ ∧
    (Ref.concat ([src, bad].map (Ref.filter (fun v => .ok (isOdd v))))).stream
      = ⟨[.int 1, .int 3, .int 5, .int 1], some .valueError⟩ := ⟨by rfl, by rfl⟩

example : (Ref.filter (fun v => .ok (isOdd v)) (Ref.filter (fun v => failOn3 v >>= fun _ => .ok true) src)).stream
      = ⟨[.int 1], some .valueError⟩ ∧
    (Ref.filter (andThenPred (fun v => failOn3 v >>= fun _ => .ok true) (fun v => .ok (isOdd v))) src).stream
      = ⟨[.int 1], some .valueError⟩ := ⟨by rfl, by rfl⟩

/-- C16 on the model of the lazy code: `ds.filter(f, lazy=True).filter(g, lazy=True)` and
    `ds.filter(h, lazy=True)` build observationally equal datasets when `h(x)` is `f(x) and g(x)`
    (short-circuit: `g` is not called where `f` refuses). -/
theorem C16_model_filter_filter {ρ : Env} (hρ : EnvOK ρ) {p : Pipeline} (ha : Adm ρ p) (f g h : PredSym)
    (hh : ∀ v, ρ.pred h v = andThenPred (ρ.pred f) (ρ.pred g) v)
    {d₁ d₂ : DS} (h₁ : build ρ (.filterLazy g (.filterLazy f p)) = .ok d₁)
    (h₂ : build ρ (.filterLazy h p) = .ok d₂) : d₁.iter = d₂.iter ∧ ObsEq d₁ d₂ :=
  obsEq_of_ref_eq hρ h₁ h₂ ha ha
    (ref_fuse fun r => (C16_filter_filter _ _ r).trans (congrArg (Ref.filter · r) (funext hh).symm))

/-! ### 13. `items()` and dropping the keys again -/

/-- C16: `ds.items().map(lambda kv: kv[1])` iterates like `ds` whenever `items()` is defined on `ds`
    (it does not raise): dropping the keys again gives back the examples, in order. With a failing
    `items()` the yielded prefix is still a prefix of what `ds` yields (`RefWF.pairs`). -/
theorem C16_items_map_snd {r : RefDS} (hw : RefWF r) (he : r.kstream.err = none) :
    (Ref.map sndOfPair (Ref.items r)).stream = r.stream := by
  obtain ⟨h1, h2⟩ := hw.pairs.2 he
  refine (Stream.mapM_total sndOfPair (okVal sndOfPair) _ ?_).trans ?_
  · intro v hv
    obtain ⟨kv, _, rfl⟩ := List.mem_map.mp hv
    rfl
  · rw [show r.stream = ⟨r.stream.vals, r.stream.err⟩ from rfl, ← h1, h2]
    simp only [Ref.items, he, List.map_map]
    rfl

example : (Ref.map sndOfPair (Ref.items dsrc)).stream = dsrc.stream := by rfl

end LazyDs
