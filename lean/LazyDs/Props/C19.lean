/-
  C19: `lazy_dataset/database.py` -- `Database.get_examples`, `get_dataset([...])`,
  `_merge_database_dicts`, and `_get_dataset` with its weak memo.

  The statements are about the definitions of `LazyDs/Model/Db.lean`.  `MembersDisjoint`,
  `examplesOr`, `mrun`, `MemoWF`, which some of them also mention, and the descriptions `demo`,
  `demoLater`, `demoPlain` of the `example`s are defined in `LazyDs/Lemmas/DbLemmas.lean`.

  Descriptions are association lists.  They model Python dicts only when the keys are distinct
  (`WF`).  Hypotheses of the form `(keysOf _).Nodup` are exactly the parts of `WF` a theorem needs;
  theorems without such a hypothesis hold for arbitrary association lists.
-/
import LazyDs.Lemmas.DbLemmas
import LazyDs.Lemmas.ListAux
import LazyDs.Lemmas.Res

namespace LazyDs
open LazyDs.Db

/-! ### `get_examples` on a dataset name -/

/-- A dataset name that is not an alias yields each stored example exactly once, in stored order,
    each extended by `augment`. -/
theorem C19_examples_once_in_order (d : Desc) (name : String) (ex : Examples)
    (ha : lookup (d.alias.getD []) name = none) (hd : lookup d.datasets name = some ex)
    (hne : ex ≠ []) :
    getExamples d name = .ok (ex.map (fun (id, f) => (id, augment name id f))) := by
  rw [getExamples_dataset d name ha, hd]
  cases ex with
  | nil => exact absurd rfl hne
  | cons p l => rfl

example : (getExamples demo "train").map keysOf = .ok ["a", "b"] := rfl

/-- In particular the example ids of the result are the stored ids, in stored order. -/
theorem C19_examples_ids_in_order (d : Desc) (name : String) (ex : Examples)
    (ha : lookup (d.alias.getD []) name = none) (hd : lookup d.datasets name = some ex)
    (hne : ex ≠ []) :
    ∃ exs, getExamples d name = .ok exs ∧ keysOf exs = keysOf ex ∧ exs.length = ex.length := by
  refine ⟨_, C19_examples_once_in_order d name ex ha hd hne, ?_, by simp⟩
  simp [keysOf, Function.comp_def]

example : ∃ exs, getExamples demo "dev" = .ok exs ∧ keysOf exs = ["c"] ∧ exs.length = 1 :=
  ⟨_, rfl, rfl, rfl⟩

/-- Every example is extended by its `example_id` and the requested dataset name; all other fields
    are untouched.  No hypothesis on `f` is needed: `lookup` returns the first entry of a key and
    `update` overwrites every entry of the key, so the statement holds even for field lists with
    repeated names (for a Python dict, `(keysOf f).Nodup`, it is the usual dict statement). -/
theorem C19_augmented (name id : String) (f : Fields) :
    lookup (augment name id f) "example_id" = some (.str id) ∧
    lookup (augment name id f) "dataset" = some (.str name) ∧
    ∀ k, k ≠ "example_id" → k ≠ "dataset" → lookup (augment name id f) k = lookup f k := by
  unfold augment
  rw [update_cons, update_cons, update_nil]
  refine ⟨?_, ?_, fun k h1 h2 => ?_⟩
  · rw [lookup_set, lookup_set]; simp
  · rw [lookup_set]; simp
  · rw [lookup_set, lookup_set]; simp [h1, h2]

example : keysOf (augment "train" "a" [("x", .int 1), ("dataset", .str "old")]) =
    ["x", "dataset", "example_id"] := by decide +kernel

/-! ### `get_examples` on an alias -/

/-- An alias yields the concatenation of its members (member after member, each in stored
    order), each example tagged with the ALIAS name.  Hypotheses: every member exists, the
    members' example ids are distinct within a member (`hnd`, part of `WF`) and pairwise disjoint
    across members (`hdisj`), and the concatenation is non-empty (otherwise `RuntimeError`, see
    `C19_empty_rejected_alias`). -/
theorem C19_alias_concat (d : Desc) (name : String) (members : List String)
    (ha : lookup (d.alias.getD []) name = some members)
    (hex : ∀ m, m ∈ members → ∃ ex, lookup d.datasets m = some ex)
    (hnd : ∀ m, m ∈ members → (keysOf ((lookup d.datasets m).getD [])).Nodup)
    (hdisj : members.Pairwise (MembersDisjoint d.datasets))
    (hne : (members.map (fun m => (lookup d.datasets m).getD [])).flatten ≠ []) :
    ∃ exs, getExamples d name = .ok exs ∧
      exs = ((members.map (fun m => (lookup d.datasets m).getD [])).flatten).map
              (fun (id, f) => (id, augment name id f)) ∧
      exs.map (·.1) = (members.map (fun m => keysOf ((lookup d.datasets m).getD []))).flatten ∧
      ∀ id fields, (id, fields) ∈ exs →
        ∃ m ex f, m ∈ members ∧ lookup d.datasets m = some ex ∧ lookup ex id = some f ∧
          fields = augment name id f := by
  have hn := nodup_memberKeys d.datasets members hnd hdisj
  have hc := collectAlias_ok d.datasets members [] hex (by simpa using hn)
  rw [List.nil_append] at hc
  have hne' : (memberExamples d.datasets members).isEmpty = false := by
    cases h : memberExamples d.datasets members with
    | nil => exact absurd h hne
    | cons a b => rfl
  refine ⟨_, ?_, rfl, ?_, ?_⟩
  · rw [getExamples_alias d name members ha, hc]
    simp only [hne', Bool.false_eq_true, if_false]
    rfl
  · rw [← keysOf_memberExamples]
    simp [keysOf, memberExamples, Function.comp_def]
  · intro id fields hmem
    obtain ⟨⟨id', f⟩, hp, he⟩ := List.mem_map.1 hmem
    simp only [Prod.mk.injEq] at he
    obtain ⟨rfl, rfl⟩ := he
    obtain ⟨l, hl, hpl⟩ := List.mem_flatten.1 hp
    obtain ⟨m, hm, rfl⟩ := List.mem_map.1 hl
    obtain ⟨ex, hmex⟩ := hex m hm
    have hnm := hnd m hm
    rw [hmex] at hpl hnm
    exact ⟨m, ex, f, hm, hmex, lookup_of_mem hnm hpl, rfl⟩

example : (getExamples demo "all").map
      (fun exs => exs.map (fun p => (p.1, (lookup p.2 "dataset").isSome))) =
    .ok [("a", true), ("b", true), ("c", true)] := rfl

/-- Two members of an alias sharing an example id are rejected (the first two members; no
    distinctness or non-emptiness hypothesis is needed). -/
theorem C19_reject_overlap (ds : Datasets) (m₁ m₂ : String) (rest : List String)
    (e₁ e₂ : Examples) (h₁ : lookup ds m₁ = some e₁) (h₂ : lookup ds m₂ = some e₂)
    (hov : intersects (keysOf e₁) (keysOf e₂) = true) :
    collectAlias ds (m₁ :: m₂ :: rest) [] = .error .assertionError := by
  rw [collectAlias, h₁]
  simp only [keysOf_nil, intersects_nil_left, Bool.false_eq_true, if_false]
  apply collectAlias_overlap ds m₂ rest _ e₂ h₂
  obtain ⟨k, hk1, hk2⟩ := (intersects_eq_true_iff _ _).1 hov
  exact (intersects_eq_true_iff _ _).2 ⟨k, (mem_keysOf_update _ _ _).2 (Or.inr hk1), hk2⟩

example : collectAlias demo.datasets ["train", "dev2"] [] = .error .assertionError := rfl

/-- The same for two members at arbitrary positions: if all members of an alias exist and some
    two of them (at different positions) share an example id, `get_examples` raises the
    assertion. -/
theorem C19_reject_overlap_anywhere (d : Desc) (name : String) (members : List String)
    (ha : lookup (d.alias.getD []) name = some members)
    (hex : ∀ m, m ∈ members → ∃ ex, lookup d.datasets m = some ex)
    (hov : ¬ members.Pairwise (MembersDisjoint d.datasets)) :
    getExamples d name = .error .assertionError := by
  rw [getExamples_alias d name members ha]
  rcases collectAlias_total d.datasets members [] hex with h | ⟨r, _, _, h⟩
  · rw [h]
  · exact absurd h hov

example : getExamples demo "bad" = .error .assertionError := rfl

/-! ### Unknown names and empty results -/

/-- A name that is neither an alias nor a dataset raises `KeyError`. -/
theorem C19_unknown_name (d : Desc) (name : String)
    (ha : lookup (d.alias.getD []) name = none) (hd : lookup d.datasets name = none) :
    getExamples d name = .error .keyError := by
  rw [getExamples_dataset d name ha, hd]

example : getExamples demo "nope" = .error .keyError := rfl

/-- An alias with a member that is not a dataset raises `KeyError` as well, provided the members
    before it exist and do not overlap (otherwise the assertion fires first). -/
theorem C19_unknown_member (d : Desc) (name : String) (pre : List String) (m : String)
    (post : List String) (ha : lookup (d.alias.getD []) name = some (pre ++ m :: post))
    (hex : ∀ m', m' ∈ pre → ∃ ex, lookup d.datasets m' = some ex)
    (hnd : ∀ m', m' ∈ pre → (keysOf ((lookup d.datasets m').getD [])).Nodup)
    (hdisj : pre.Pairwise (MembersDisjoint d.datasets))
    (hm : lookup d.datasets m = none) :
    getExamples d name = .error .keyError := by
  rw [getExamples_alias d name _ ha, collectAlias_append,
    collectAlias_ok d.datasets pre [] hex (by simpa using nodup_memberKeys d.datasets pre hnd hdisj)]
  show (match collectAlias d.datasets (m :: post) _ with | .error e => _ | .ok raw => _) = _
  rw [collectAlias, hm]

example : getExamples { demo with alias := some [("x", ["train", "gone"])] } "x" =
    .error .keyError := rfl

/-- An empty dataset is rejected with `RuntimeError`. -/
theorem C19_empty_rejected (d : Desc) (name : String)
    (ha : lookup (d.alias.getD []) name = none) (hd : lookup d.datasets name = some []) :
    getExamples d name = .error .runtimeError := by
  rw [getExamples_dataset d name ha, hd]; rfl

example : getExamples demo "empty" = .error .runtimeError := rfl

/-- An alias whose members exist and are all empty (in particular an alias without members) is
    rejected with `RuntimeError`. -/
theorem C19_empty_rejected_alias (d : Desc) (name : String) (members : List String)
    (ha : lookup (d.alias.getD []) name = some members)
    (hempty : ∀ m, m ∈ members → lookup d.datasets m = some []) :
    getExamples d name = .error .runtimeError := by
  have hme : memberExamples d.datasets members = [] := by
    simp only [memberExamples, List.flatten_eq_nil_iff, List.mem_map]
    rintro l ⟨m, hm, rfl⟩
    rw [hempty m hm]; rfl
  have hc := collectAlias_ok d.datasets members [] (fun m hm => ⟨[], hempty m hm⟩)
    (by rw [hme]; simp)
  rw [getExamples_alias d name members ha, hc, hme]; rfl

example : getExamples { demo with alias := some [("e", ["empty", "empty"])] } "e" =
    .error .runtimeError := rfl

/-! ### `get_dataset([n1, n2, …])` -/

/-- A list of names is processed name by name: the defining equation. -/
theorem C19_list_concat_cons (d : Desc) (n : String) (rest : List String) :
    getMany d (n :: rest) =
      (do let a ← getExamples d n; let b ← getMany d rest; .ok (a ++ b)) := rfl

example : getMany demo [] = .ok [] := rfl

/-- In monadic form, which also says which error is raised: the first one. -/
theorem C19_list_concat_mapM (d : Desc) (names : List String) :
    getMany d names = (do let parts ← names.mapM (getExamples d); .ok parts.flatten) := by
  induction names with
  | nil => simp [getMany]
  | cons n rest ih =>
    rw [getMany, ih, List.mapM_cons]
    cases getExamples d n <;> cases List.mapM (getExamples d) rest <;> rfl

example : getMany demo ["dev", "nope", "empty"] = .error .keyError := rfl

/-- A list of names yields the concatenation of the results of `get_examples`, in order, and
    succeeds exactly when every name succeeds.  (`examplesOr d n` is the result of
    `getExamples d n` if it is `.ok`.) -/
theorem C19_list_concat (d : Desc) (names : List String) (exs : Examples) :
    getMany d names = .ok exs ↔
      (∀ n, n ∈ names → ∃ p, getExamples d n = .ok p) ∧
        exs = (names.map (examplesOr d)).flatten := by
  rw [C19_list_concat_mapM, bind_eq_ok]
  constructor
  · rintro ⟨parts, hp, h⟩
    cases h
    refine ⟨fun n hn => (List.mapM_ok_of_mem hp hn).imp fun _ h => h.2, ?_⟩
    rw [List.mapM_ok_eq_map (g := examplesOr d) hp fun n _ p hnp => by rw [examplesOr, hnp]]
  · rintro ⟨hall, rfl⟩
    refine ⟨_, List.mapM_ok_of_forall fun n hn => ?_, rfl⟩
    obtain ⟨p, hp⟩ := hall n hn
    rw [examplesOr, hp]

example : (getMany demo ["dev", "train"]).map keysOf = .ok ["c", "a", "b"] := rfl

/-! ### `_merge_database_dicts` -/

/-- A single description is returned as it is. -/
theorem C19_merge_single (d : Desc) : merge [d] = .ok d := rfl

example : (merge [demo]).map (·.extra) = .ok ["meta"] := rfl

/-- A later description with other top-level keys than `datasets` / `alias` is rejected. -/
theorem C19_reject_extra (d₁ d₂ : Desc) (hx : d₂.extra ≠ []) :
    merge [d₁, d₂] = .error .assertionError :=
  (mergeInto_cons d₁ d₂ []).trans (if_neg fun h => hx h.1)

example : (merge [demoLater, demo]).toOption.isNone = true := by decide +kernel

/-- A dataset name or alias name of the later description that is a dataset name or alias name
    of the first one is rejected. -/
theorem C19_reject_duplicates (d₁ d₂ : Desc) (n : String)
    (hn : n ∈ keysOf d₂.datasets ++ keysOf (d₂.alias.getD []))
    (ht : n ∈ keysOf d₁.datasets ++ keysOf (d₁.alias.getD [])) :
    merge [d₁, d₂] = .error .assertionError :=
  (mergeInto_cons d₁ d₂ []).trans (if_neg fun h => h.2 n hn ht)

example : (merge [demo, { demoLater with alias := some [("train", ["test"])] }]).toOption.isNone
    = true := by decide +kernel

/-- Merging is total on what is left: if the later description has only `datasets` / `alias`
    and reuses no name, the merge succeeds; extra top-level keys of the FIRST description are kept;
    the dataset table is the first one followed by the later one, and lookups see the later
    description first; the alias table likewise, where either description may lack an alias section
    (`none` is read as the empty table).  `hn₁`, `hn₂`: the later description is a dict (distinct
    names); without them `lookup` (first entry) and `update` (last entry wins) disagree, see
    `C19_merge_total_counterexample`. -/
theorem C19_merge_total (d₁ d₂ : Desc) (hx : d₂.extra = [])
    (hc : ∀ n, n ∈ keysOf d₂.datasets ++ keysOf (d₂.alias.getD []) →
      n ∉ keysOf d₁.datasets ++ keysOf (d₁.alias.getD []))
    (hn₁ : (keysOf d₂.datasets).Nodup) (hn₂ : (keysOf (d₂.alias.getD [])).Nodup) :
    ∃ m, merge [d₁, d₂] = .ok m ∧ m.extra = d₁.extra ∧
      (∀ n, lookup m.datasets n =
        (lookup d₂.datasets n).orElse (fun _ => lookup d₁.datasets n)) ∧
      (∀ n, lookup (m.alias.getD []) n =
        (lookup (d₂.alias.getD []) n).orElse (fun _ => lookup (d₁.alias.getD []) n)) ∧
      m.datasets = d₁.datasets ++ d₂.datasets ∧
      m.alias.getD [] = d₁.alias.getD [] ++ d₂.alias.getD [] ∧
      m.alias.isSome = (d₁.alias.isSome || d₂.alias.isSome) := by
  refine ⟨_, (mergeInto_cons d₁ d₂ []).trans (if_pos ⟨hx, hc⟩), rfl, ?_, ?_, ?_, ?_, ?_⟩
  · exact lookup_update _ hn₁
  · rw [mergeOne_alias_getD]; exact lookup_update _ hn₂
  · exact update_eq_append
      (fun k hk hk' => hc k (List.mem_append_left _ hk) (List.mem_append_left _ hk')) hn₁
  · rw [mergeOne_alias_getD]
    exact update_eq_append
      (fun k hk hk' => hc k (List.mem_append_right _ hk) (List.mem_append_right _ hk')) hn₂
  · unfold mergeOne; cases d₂.alias <;> simp

/-- the input of finding F8: only the later description has an alias section (`KeyError` in a merge
    that reads `result['alias']` without `setdefault`), and the first one has an extra top-level
    key that is no dict (`AttributeError` in a merge that copies every entry as a dict) -/
example : (merge [demoPlain, demoLater]).map (fun m => (keysOf m.datasets, m.alias, m.extra)) =
    .ok (["train", "test"], some [("eval", ["test"])], ["meta"]) := rfl

/-- Without distinct names in the later description the lookup clause of `C19_merge_total` fails:
    `update` keeps the last value of a repeated key, `lookup` finds the first. -/
theorem C19_merge_total_counterexample :
    ∃ d₁ d₂ m, d₂.extra = [] ∧ merge [d₁, d₂] = .ok m ∧
      lookup m.datasets "a" ≠ (lookup d₂.datasets "a").orElse (fun _ => lookup d₁.datasets "a") :=
  ⟨⟨[], none, []⟩, ⟨[("a", []), ("a", [("x", [])])], none, []⟩, _, rfl, rfl, fun h => nomatch h⟩

/-- The lookup clauses without any distinctness hypothesis: the LAST entry of a repeated name in
    the later description wins. -/
theorem C19_merge_total_last_wins (d₁ d₂ : Desc) (hx : d₂.extra = [])
    (hc : ∀ n, n ∈ keysOf d₂.datasets ++ keysOf (d₂.alias.getD []) →
      n ∉ keysOf d₁.datasets ++ keysOf (d₁.alias.getD [])) :
    ∃ m, merge [d₁, d₂] = .ok m ∧ m.extra = d₁.extra ∧
      (∀ n, lookup m.datasets n =
        (lookup d₂.datasets.reverse n).orElse (fun _ => lookup d₁.datasets n)) ∧
      (∀ n, lookup (m.alias.getD []) n =
        (lookup (d₂.alias.getD []).reverse n).orElse (fun _ => lookup (d₁.alias.getD []) n)) := by
  refine ⟨_, (mergeInto_cons d₁ d₂ []).trans (if_pos ⟨hx, hc⟩), rfl, ?_, ?_⟩
  · exact lookup_update_last _ _
  · rw [mergeOne_alias_getD]; exact lookup_update_last _ _

example : (merge [demo, demoLater]).map (fun m => keysOf (m.alias.getD [])) =
    .ok ["all", "bad", "eval"] := rfl

/-- After a successful merge of two descriptions WITHOUT alias sections, `get_examples` on the
    merged description agrees with `get_examples` on the description the dataset name comes from,
    and names of neither description are unknown.  `hn`: the later description is a dict.
    Left out: descriptions with alias sections (an alias name of `d₁` may shadow a dataset name of
    `d₁` itself, which the merge does not check), and requests for alias names. -/
theorem C19_merged_dataset_lookup (d₁ d₂ m : Desc) (h₁ : d₁.alias = none) (h₂ : d₂.alias = none)
    (hn : (keysOf d₂.datasets).Nodup) (hm : merge [d₁, d₂] = .ok m) (n : String) :
    (n ∈ keysOf d₁.datasets → getExamples m n = getExamples d₁ n) ∧
    (n ∈ keysOf d₂.datasets → getExamples m n = getExamples d₂ n) ∧
    (n ∉ keysOf d₁.datasets → n ∉ keysOf d₂.datasets → getExamples m n = .error .keyError) := by
  obtain ⟨hc, rfl⟩ : (∀ n ∈ takenNames d₂, n ∉ takenNames d₁) ∧ m = mergeOne d₁ d₂ := by
    have hm' : mergeInto d₁ [d₂] = .ok m := hm
    rw [mergeInto_cons] at hm'
    split at hm'
    · next hc => cases hm'; exact ⟨hc.2, rfl⟩
    · cases hm'
  have hma : (mergeOne d₁ d₂).alias = none := by rw [mergeOne, h₂]; exact h₁
  have hmd : ∀ k, lookup (mergeOne d₁ d₂).datasets k =
      (lookup d₂.datasets k).orElse (fun _ => lookup d₁.datasets k) :=
    lookup_update _ hn
  have ha : ∀ (d : Desc), d.alias = none → lookup (d.alias.getD []) n = none := by
    intro d hd; rw [hd]; rfl
  rw [getExamples_dataset _ n (ha _ hma), getExamples_dataset d₁ n (ha d₁ h₁),
    getExamples_dataset d₂ n (ha d₂ h₂), hmd n]
  refine ⟨?_, ?_, ?_⟩
  · intro h
    have : n ∉ keysOf d₂.datasets := fun h' =>
      hc n (by simp [takenNames, h']) (by simp [takenNames, h])
    rw [(lookup_eq_none_iff _ _).2 this]; rfl
  · intro h
    obtain ⟨v, hv⟩ := Option.isSome_iff_exists.1 ((lookup_isSome_iff _ _).2 h)
    rw [hv]; rfl
  · intro h h'
    rw [(lookup_eq_none_iff _ _).2 h, (lookup_eq_none_iff _ _).2 h']; rfl

example : (merge [demoPlain, { demoLater with alias := none }]).bind
      (fun m => (getExamples m "test").map keysOf) = .ok ["t"] := rfl

/-! ### `_get_dataset` and the weak memo -/

/-- (i) Repeated requests are served from one shared dataset while it is alive: once `get name`
    has returned the object `id`, then after arbitrary further operations other than `gc name`
    (requests for any name, collection of other names) `get name` returns the same identity and
    the same examples. -/
theorem C19_memo_shared (d : Desc) (s : MemoSt) (name : String) (ops : List MOp) (id : Nat)
    (ex : Examples) (h : (mstep d s (.get name)).2 = some (.ok (id, ex)))
    (hops : ∀ op, op ∈ ops → op ≠ .gc name) :
    (mstep d (mrun d (mstep d s (.get name)).1 ops) (.get name)).2 = some (.ok (id, ex)) := by
  obtain ⟨hl, hg⟩ := lookup_after_get h
  rw [mstep_get, hg]
  simp only [mrun_keeps d _ ops name id hops hl]

example : (mstep demo (mrun demo (mstep demo ⟨[], 0⟩ (.get "dev")).1
      [.get "train", .gc "train", .get "train", .get "dev"]) (.get "dev")).2.map
      (fun r => r.map (·.1)) = some (.ok 0) := rfl

/-- (ii) After the object for `name` has been collected, the next request builds a FRESH object
    (its identity is the state's next identity, larger than the identity `id₀` handed out before
    and than every identity still in the memo) with EQUAL examples.  `MemoWF s`: every identity in
    the memo is below `s.next`; it holds initially (`⟨[], 0⟩`) and is preserved by every step
    (`memoWF_mstep`). -/
theorem C19_memo_fresh_after_gc (d : Desc) (s : MemoSt) (hs : MemoWF s) (name : String)
    (ops : List MOp) (id₀ : Nat) (ex : Examples)
    (h : (mstep d s (.get name)).2 = some (.ok (id₀, ex))) :
    let s₂ := mrun d (mstep d s (.get name)).1 ops
    let s₃ := (mstep d s₂ (.gc name)).1
    (mstep d s₃ (.get name)).2 = some (.ok (s₃.next, ex)) ∧ id₀ < s₃.next ∧
      (∀ p, p ∈ s₃.memo → p.2 < s₃.next) ∧ s.next ≤ s₃.next := by
  intro s₂ s₃
  obtain ⟨hl, hg⟩ := lookup_after_get h
  have hwf1 := memoWF_mstep d s (.get name) hs
  have hlt := hwf1 _ (mem_of_lookup hl)
  have hle2 : (mstep d s (.get name)).1.next ≤ s₂.next := mrun_next_le d _ ops
  have hle3 : s₂.next ≤ s₃.next := mstep_next_le d s₂ (.gc name)
  have hwf3 : MemoWF s₃ := memoWF_mstep d s₂ _ (memoWF_mrun d _ ops hwf1)
  refine ⟨?_, by omega, hwf3, ?_⟩
  · rw [mstep_get, hg]
    simp only [show lookup s₃.memo name = none from lookup_after_gc d s₂ name]
  · have := mstep_next_le d s (.get name)
    omega

example : (mstep demo (mstep demo (mstep demo ⟨[], 0⟩ (.get "dev")).1 (.gc "dev")).1
      (.get "dev")).2.map (fun r => r.map (·.1)) = some (.ok 1) := rfl

/-- (iii) The examples a request returns never depend on the memo state: they are
    `get_examples` of the description.  Conversely a request fails exactly as `get_examples`. -/
theorem C19_memo_examples_independent (d : Desc) (s : MemoSt) (name : String) :
    (∀ id ex, (mstep d s (.get name)).2 = some (.ok (id, ex)) → getExamples d name = .ok ex) ∧
    (∀ e, (mstep d s (.get name)).2 = some (.error e) ↔ getExamples d name = .error e) := by
  rw [mstep_get]
  cases getExamples d name with
  | error e => exact ⟨nofun, fun e' => ⟨fun h => by cases h; rfl, fun h => by cases h; rfl⟩⟩
  | ok ex =>
    cases lookup s.memo name <;>
      exact ⟨fun _ _ h => by cases h; rfl, fun _ => ⟨nofun, nofun⟩⟩

example : (mstep demo ⟨[("empty", 7)], 8⟩ (.get "empty")).2 = some (.error .runtimeError) := rfl

/-! ### The source descriptions are not changed -/

/-- REMARK.  In this functional model a description is an immutable value: `getExamples`,
    `getMany`, `merge` and `mstep` are pure functions of `d` and return new values, so "the
    description is unchanged by a request" cannot even be violated here, and asking twice gives the
    same answer (`rfl`), whatever happened in between (`C19_memo_examples_independent`).  The
    corresponding claim about the real code -- `get_examples` and `_merge_database_dicts` do not
    write to the dictionaries they are given (the `{**a, **b}` copies, the two-level copy in
    `_merge_database_dicts`) -- is NOT established by this theorem; it is established by the
    correspondence check of the Python harness, which compares the source dictionaries before and
    after each call. -/
theorem C19_sources_unchanged (d : Desc) (name : String) (names : List String)
    (r₁ r₂ : Res Examples) (q₁ q₂ : Res Examples)
    (h₁ : r₁ = getExamples d name) (_between : q₁ = getMany d names)
    (h₂ : r₂ = getExamples d name) (_after : q₂ = getMany d names) : r₁ = r₂ ∧ q₁ = q₂ := by
  subst h₁ h₂ _between _after; exact ⟨rfl, rfl⟩

example : getExamples demo "train" = getExamples demo "train" := rfl

end LazyDs
