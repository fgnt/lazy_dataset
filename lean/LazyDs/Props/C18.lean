import LazyDs.Lemmas.ShardSort
/-
  C18: `sort` and `groupby`.

  `sortOrderBy lt ks reverse` is `[index for _, index in sorted(zip(values, count()), reverse=reverse)]`
  for the key type with strict order `lt`; `sortKeys` is `sorted(keys, reverse=reverse)`;
  `groupIndices gs` is the grouping `groupby` computes from the group ids `gs`.

  The order hypotheses on `lt : κ → κ → Bool` (a strict total order) hold of both key types the
  model sorts by, `intLt` and `strLt` (`C18_sort_int`, `C18_sort_str`).  `ks[i]!` is used for the key of example `i`; every index in
  the result is `< ks.length` by `C18_sort_perm`, so the default value never shows up.
-/
namespace LazyDs
open LazyDs.ShardSort

/-! ### `sort(key_fn)` -/

/-- The sort order is a permutation of `0, …, n-1` (no hypothesis on `lt`): `sort` neither
    loses nor duplicates an example. -/
theorem C18_sort_perm {κ : Type} (lt : κ → κ → Bool) (ks : List κ) (rev : Bool) :
    (sortOrderBy lt ks rev).Perm (List.range ks.length) := by
  cases rev
  · exact sortedPairs_snd_perm lt ks
  · exact sortOrderBy_true lt ks ▸ (List.reverse_perm _).trans (sortedPairs_snd_perm lt ks)

/-- The sort order is DETERMINED by its specification: any arrangement `o` of the positions
    `0, …, n-1` along which the sort keys are non-decreasing and ties appear in index order is the
    order `sort(key_fn)` produces (so `C18_sort_perm`, `C18_sort_monotone` and `C18_sort_stable_ties`
    together leave no freedom). -/
theorem C18_sort_unique {κ : Type} [Inhabited κ] (lt : κ → κ → Bool)
    (irrefl : ∀ a, lt a a = false)
    (trans : ∀ a b c, lt a b = true → lt b c = true → lt a c = true)
    (total : ∀ a b, a ≠ b → lt a b = true ∨ lt b a = true) (ks : List κ) (o : List Nat)
    (hperm : o.Perm (List.range ks.length))
    (hsorted : o.Pairwise (fun i j => lt (ks[j]!) (ks[i]!) = false ∧ (ks[i]! = ks[j]! → i < j))) :
    o = sortOrderBy lt ks false := by
  refine List.Perm.eq_of_pairwise ?_ hsorted (sortOrderBy_sorted ⟨irrefl, trans, total⟩ ks)
    (hperm.trans (C18_sort_perm lt ks false).symm)
  rintro i j _ _ ⟨h1, h2⟩ ⟨h3, h4⟩
  by_cases he : ks[i]! = ks[j]!
  · have := h2 he; have := h4 he.symm; omega
  · rcases total _ _ he with h | h
    · rw [h] at h3; cases h3
    · rw [h] at h1; cases h1

/-- The same for `reverse=True`. -/
theorem C18_sort_unique_reverse {κ : Type} [Inhabited κ] (lt : κ → κ → Bool)
    (irrefl : ∀ a, lt a a = false)
    (trans : ∀ a b c, lt a b = true → lt b c = true → lt a c = true)
    (total : ∀ a b, a ≠ b → lt a b = true ∨ lt b a = true) (ks : List κ) (o : List Nat)
    (hperm : o.Perm (List.range ks.length))
    (hsorted : o.Pairwise (fun i j => lt (ks[i]!) (ks[j]!) = false ∧ (ks[i]! = ks[j]! → j < i))) :
    o = sortOrderBy lt ks true := by
  rw [sortOrderBy_true, ← List.reverse_eq_iff]
  exact C18_sort_unique lt irrefl trans total ks o.reverse ((List.reverse_perm o).trans hperm)
    (List.pairwise_reverse.2 (hsorted.imp fun ⟨h1, h2⟩ => ⟨h1, fun e => h2 e.symm⟩))

-- the hypotheses are satisfiable: the order of the running example meets them
example : ([1, 3, 2, 0] : List Nat).Perm (List.range [3, 1, 2, 1].length) ∧
    ([1, 3, 2, 0] : List Nat).Pairwise (fun i j => intLt (([3, 1, 2, 1] : List Int)[j]!) (([3, 1, 2, 1] : List Int)[i]!) = false
      ∧ ((([3, 1, 2, 1] : List Int)[i]!) = (([3, 1, 2, 1] : List Int)[j]!) → i < j)) :=
  ⟨by decide +kernel, by decide +kernel⟩

/-- The running example, evaluated through its specification: `List.mergeSort` is defined by
    well-founded recursion, so neither `rfl` nor `decide` computes a sort order; a permutation of
    the positions that meets the specification is checked by `decide` and is the order by
    `C18_sort_unique`. -/
theorem sortOrderBy_running : sortOrderBy intLt [3, 1, 2, 1] false = [1, 3, 2, 0] :=
  (C18_sort_unique intLt intLt_strictTotal.1 intLt_strictTotal.2 intLt_strictTotal.3 _ _
    (by decide +kernel) (by decide +kernel)).symm

example : sortOrderBy intLt [3, 1, 2, 1] false = [1, 3, 2, 0] := sortOrderBy_running

/-- Ascending sort: the sort keys along the result are non-decreasing. -/
theorem C18_sort_monotone {κ : Type} [Inhabited κ] (lt : κ → κ → Bool)
    (irrefl : ∀ a, lt a a = false)
    (trans : ∀ a b c, lt a b = true → lt b c = true → lt a c = true)
    (total : ∀ a b, a ≠ b → lt a b = true ∨ lt b a = true) (ks : List κ) :
    (sortOrderBy lt ks false).Pairwise (fun i j => ¬ lt (ks[j]!) (ks[i]!) = true) :=
  (sortOrderBy_sorted ⟨irrefl, trans, total⟩ ks).imp (fun h => by rw [h.1]; exact Bool.false_ne_true)

example : (sortOrderBy intLt [3, 1, 2, 1] false).map ([3, 1, 2, 1][·]!) = [1, 1, 2, 3] := by
  rw [sortOrderBy_running]; rfl

/-- `reverse=True`: the sort keys along the result are non-increasing. -/
theorem C18_sort_monotone_reverse {κ : Type} [Inhabited κ] (lt : κ → κ → Bool)
    (irrefl : ∀ a, lt a a = false)
    (trans : ∀ a b c, lt a b = true → lt b c = true → lt a c = true)
    (total : ∀ a b, a ≠ b → lt a b = true ∨ lt b a = true) (ks : List κ) :
    (sortOrderBy lt ks true).Pairwise (fun i j => ¬ lt (ks[i]!) (ks[j]!) = true) :=
  (sortOrderBy_sorted_reverse ⟨irrefl, trans, total⟩ ks).imp (fun h => by rw [h.1]; exact Bool.false_ne_true)

example : (sortOrderBy intLt [3, 1, 2, 1] true).map ([3, 1, 2, 1][·]!) = [3, 2, 1, 1] := by
  rw [sortOrderBy_true, sortOrderBy_running]; rfl

/-- Ties are broken by the example index, as the tuple comparison `(value, index)` does:
    ascending, examples with equal keys keep their relative order; with `reverse=True` they
    appear in decreasing index order (the whole tuple order is reversed). -/
theorem C18_sort_stable_ties {κ : Type} [Inhabited κ] (lt : κ → κ → Bool)
    (irrefl : ∀ a, lt a a = false)
    (trans : ∀ a b c, lt a b = true → lt b c = true → lt a c = true)
    (total : ∀ a b, a ≠ b → lt a b = true ∨ lt b a = true) (ks : List κ) :
    (sortOrderBy lt ks false).Pairwise (fun i j => ks[i]! = ks[j]! → i < j)
    ∧ (sortOrderBy lt ks true).Pairwise (fun i j => ks[i]! = ks[j]! → j < i) :=
  ⟨(sortOrderBy_sorted ⟨irrefl, trans, total⟩ ks).imp (fun h => h.2),
   (sortOrderBy_sorted_reverse ⟨irrefl, trans, total⟩ ks).imp (fun h => h.2)⟩

-- the two examples with key `1` are `1, 3` ascending and `3, 1` with `reverse=True`
example : sortOrderBy intLt [3, 1, 2, 1] false = [1, 3, 2, 0]
    ∧ sortOrderBy intLt [3, 1, 2, 1] true = [0, 2, 3, 1] :=
  ⟨sortOrderBy_running, by rw [sortOrderBy_true, sortOrderBy_running]; rfl⟩

/-- The three clauses for a key type whose order `le` is the negation of the reversed `lt`. -/
theorem sort_spec_of_le {κ : Type} [Inhabited κ] {lt : κ → κ → Bool} (h : StrictTotal lt)
    (le : κ → κ → Prop) (hle : ∀ a b, lt b a = false → le a b) (ks : List κ) :
    (∀ rev, (sortOrderBy lt ks rev).Perm (List.range ks.length))
    ∧ (sortOrderBy lt ks false).Pairwise (fun i j => le ks[i]! ks[j]! ∧ (ks[i]! = ks[j]! → i < j))
    ∧ (sortOrderBy lt ks true).Pairwise (fun i j => le ks[j]! ks[i]! ∧ (ks[i]! = ks[j]! → j < i)) :=
  ⟨C18_sort_perm lt ks, (sortOrderBy_sorted h ks).imp fun h => ⟨hle _ _ h.1, h.2⟩,
    (sortOrderBy_sorted_reverse h ks).imp fun h => ⟨hle _ _ h.1, h.2⟩⟩

/-- Integer sort keys: permutation, monotone keys, ties by index — for both directions. -/
theorem C18_sort_int (ks : List Int) :
    (∀ rev, (sortOrderBy intLt ks rev).Perm (List.range ks.length))
    ∧ (sortOrderBy intLt ks false).Pairwise (fun i j => ks[i]! ≤ ks[j]! ∧ (ks[i]! = ks[j]! → i < j))
    ∧ (sortOrderBy intLt ks true).Pairwise (fun i j => ks[j]! ≤ ks[i]! ∧ (ks[i]! = ks[j]! → j < i)) :=
  sort_spec_of_le intLt_strictTotal (· ≤ ·)
    (fun _ _ h => Int.not_lt.1 (of_decide_eq_false h)) ks

example : sortOrderBy intLt [5, -2, 5, 0, -2] true = [2, 0, 3, 4, 1] := by
  rw [sortOrderBy_true, List.reverse_eq_iff]
  exact (C18_sort_unique intLt intLt_strictTotal.1 intLt_strictTotal.2 intLt_strictTotal.3 _ _
    (by decide +kernel) (by decide +kernel)).symm

/-- String sort keys: permutation, monotone keys, ties by index — for both directions. -/
theorem C18_sort_str (ks : List String) :
    (∀ rev, (sortOrderBy strLt ks rev).Perm (List.range ks.length))
    ∧ (sortOrderBy strLt ks false).Pairwise (fun i j => ks[i]! ≤ ks[j]! ∧ (ks[i]! = ks[j]! → i < j))
    ∧ (sortOrderBy strLt ks true).Pairwise (fun i j => ks[j]! ≤ ks[i]! ∧ (ks[i]! = ks[j]! → j < i)) :=
  sort_spec_of_le strLt_strictTotal (· ≤ ·)
    (fun _ _ h => String.not_lt.1 (of_decide_eq_false h)) ks

example : sortOrderBy strLt ["b", "a", "c", "a"] false = [1, 3, 0, 2]
    ∧ sortOrderBy strLt ["b", "a", "c", "a"] true = [2, 0, 3, 1] := by
  have h : sortOrderBy strLt ["b", "a", "c", "a"] false = [1, 3, 0, 2] :=
    (C18_sort_unique strLt strLt_strictTotal.1 strLt_strictTotal.2 strLt_strictTotal.3 _ _
      (by decide +kernel) (by decide +kernel)).symm
  exact ⟨h, by rw [sortOrderBy_true, h]; rfl⟩

/-! ### `sort()` without a key function: the example keys are the sort keys -/

/-- `sorted(keys, reverse=…)` is a permutation of the keys. -/
theorem C18_sortKeys_perm (ks : List String) (rev : Bool) : (sortKeys ks rev).Perm ks := by
  cases rev <;> exact List.mergeSort_perm _ _

/-- `sorted(keys)` is non-decreasing and `sorted(keys, reverse=True)` non-increasing
    (the `reverse` flag is honoured, F7). -/
theorem C18_sortKeys_sorted (ks : List String) :
    (sortKeys ks false).Pairwise (fun a b => a ≤ b)
    ∧ (sortKeys ks true).Pairwise (fun a b => b ≤ a) := by
  refine ⟨(List.pairwise_mergeSort (le := strLe) ?_ ?_ ks).imp of_decide_eq_true,
    (List.pairwise_mergeSort (le := fun a b => strLe b a) ?_ ?_ ks).imp of_decide_eq_true⟩
  · exact fun a b c h1 h2 => decide_eq_true (String.le_trans (of_decide_eq_true h1) (of_decide_eq_true h2))
  · exact fun a b => by simp only [strLe, Bool.or_eq_true, decide_eq_true_eq]; exact String.le_total a b
  · exact fun a b c h1 h2 => decide_eq_true (String.le_trans (of_decide_eq_true h2) (of_decide_eq_true h1))
  · exact fun a b => by simp only [strLe, Bool.or_eq_true, decide_eq_true_eq]; exact String.le_total b a

example : sortKeys ["b", "a", "c", "a"] false = ["a", "a", "b", "c"]
    ∧ sortKeys ["b", "a", "c", "a"] true = ["c", "b", "a", "a"] :=
  -- a sorted permutation of the keys is unique
  ⟨((C18_sortKeys_perm _ false).trans (by decide +kernel)).eq_of_pairwise
      (fun _ _ _ _ => String.le_antisymm) (C18_sortKeys_sorted _).1 (by decide +kernel),
    ((C18_sortKeys_perm _ true).trans (by decide +kernel)).eq_of_pairwise
      (fun _ _ _ _ h1 h2 => String.le_antisymm h2 h1) (C18_sortKeys_sorted _).2 (by decide +kernel)⟩

/-! ### `groupby` -/

/-- Every example is in exactly one group. -/
theorem C18_groupby_partition (gs : List SKey) :
    ((groupIndices gs).map (·.2)).flatten.Perm (List.range gs.length) :=
  zipIdx_map_snd_range gs ▸ groupFold_flatten_perm gs.zipIdx []

example : groupIndices [.str "a", .int 1, .str "a", .str "b", .int 1]
    = [(.str "a", [0, 2]), (.int 1, [1, 4]), (.str "b", [3])] := by decide +kernel

/-- …namely in the group named by its group id. -/
theorem C18_groupby_ids (gs : List SKey) :
    ∀ g is, (g, is) ∈ groupIndices gs → ∀ i ∈ is, gs[i]? = some g := fun g is h _ hi =>
  List.mem_zipIdx_iff_getElem?.1 (((groupIndices_inv gs).sub g is h).subset (List.mem_map_of_mem hi))

example : ∀ p ∈ groupIndices [.str "a", .int 1, .str "a", .str "b", .int 1],
    ∀ i ∈ p.2, [SKey.str "a", .int 1, .str "a", .str "b", .int 1][i]? = some p.1 := by decide +kernel

/-- Every example is found in the group of its own group id. -/
theorem C18_groupby_complete (gs : List SKey) (i : Nat) (hi : i < gs.length) :
    ∃ is, (gs[i], is) ∈ groupIndices gs ∧ i ∈ is := by
  have hmem : i ∈ ((groupIndices gs).map (·.2)).flatten :=
    (C18_groupby_partition gs).mem_iff.mpr (List.mem_range.mpr hi)
  obtain ⟨is, his, hiis⟩ := List.mem_flatten.mp hmem
  obtain ⟨⟨g, is'⟩, hp, rfl⟩ := List.mem_map.mp his
  have hg := C18_groupby_ids gs g is' hp i hiis
  rw [List.getElem?_eq_getElem hi] at hg
  cases hg
  exact ⟨is', hp, hiis⟩

example : (SKey.int 1, [1, 4]) ∈ groupIndices [.str "a", .int 1, .str "a", .str "b", .int 1] := by
  decide +kernel

/-- Group ids are pairwise distinct: one group per id. -/
theorem C18_groupby_nodup_ids (gs : List SKey) : ((groupIndices gs).map (·.1)).Nodup :=
  (groupIndices_inv gs).nodup

example : (groupIndices [.str "a", .int 1, .str "a", .str "b", .int 1]).map (·.1)
    = [.str "a", .int 1, .str "b"] := by decide +kernel

/-- Inside a group the examples keep their relative order. -/
theorem C18_groupby_order (gs : List SKey) :
    ∀ g is, (g, is) ∈ groupIndices gs → is.Pairwise (· < ·) := fun g is h => by
  -- untagged, the members of a group are a sub-list of `0, …, n-1`
  have := ((groupIndices_inv gs).sub g is h).map (·.2)
  rw [List.map_map, zipIdx_map_snd_range] at this
  exact List.Pairwise.sublist (List.map_id' is ▸ this) List.pairwise_lt_range

example : ∀ p ∈ groupIndices [.int 2, .int 1, .int 2, .int 2, .int 1], p.2.Pairwise (· < ·) := by
  decide +kernel

end LazyDs
