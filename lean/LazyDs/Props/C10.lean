/-
  C10: `CacheDataset` (in-memory cache), final theorems about the model `LazyDs.Cache`.

  `Cache.Reach`, `Cache.keys` and the data of the examples are defined in `LazyDs.Lemmas.CacheInv`,
  `Cache.normIdx` (Python's index normalisation, `none` for `IndexError`: `C10_normIdx_spec`) in
  `LazyDs.Lemmas.PyIndex`.
  The theorems come with `example`s on the concrete history `Cache.Ex.hist` (9 accesses on
  a dataset of length 3: a copy, negative indices, a memory shortage that latches the copy, an
  out-of-range index, an unknown instance), with `V := Nat` and the upstream pipeline
  `upEx j c = 100 * j + c`, whose result depends on how often it was evaluated, so that "frozen",
  "first value" and "at most once" are visible in the numbers; `sEx` is the state after `hist`.
-/
import LazyDs.Lemmas.CacheInv

namespace LazyDs

open Cache (St Op Out step run init lookup normIdx keys Reach)

open Cache.Ex

example : (run upEx (init 3) hist).2 =
    [.val 100, .val 100, .newInst 1, .val 200, .val 201, .val 202, .val 202,
     .indexError, .badInst] := by decide +kernel
example : sEx.store = [(1, 100), (2, 202)] := by decide +kernel
example : sEx.latch = [true, false] := by decide +kernel
example : sEx.calls = [0, 1, 3] := by decide +kernel

/-- `normIdx` is Python's index normalisation: `ds[i]` with `-n ≤ i < 0` is `ds[i + n]`, and `none`
    stands for the `IndexError` outside `[-n, n)`. -/
theorem C10_normIdx_spec (n : Nat) (i : Int) :
    (∀ j : Nat, normIdx n i = some j ↔
        (0 ≤ i ∧ i < n ∧ (j : Int) = i) ∨ (i < 0 ∧ -(n : Int) ≤ i ∧ (j : Int) = i + n)) ∧
    (normIdx n i = none ↔ (i < -(n : Int) ∨ (n : Int) ≤ i)) :=
  ⟨fun _ => Cache.normIdx_some_iff, Cache.normIdx_none_iff⟩

example : normIdx 3 (-1) = some 2 ∧ normIdx 3 2 = some 2 ∧ normIdx 3 3 = none ∧
    normIdx 3 (-4) = none := by decide +kernel

/-- In every reachable state the store is a function: at most one entry per example index, every
    stored index is an example index, and there is one call counter per example. -/
theorem C10_store_functional {V : Type} (up : Nat → Nat → V) (n : Nat) (s : St V)
    (h : Reach up n s) :
    (keys s.store).Nodup ∧ (∀ j v, (j, v) ∈ s.store → j < n) ∧ s.calls.length = n ∧ s.n = n := by
  have hi := h.inv
  have hn := h.n_eq
  exact ⟨hi.nodup, fun j v hm => hn ▸ hi.key_lt j v hm, hn ▸ hi.calls_len, hn⟩

/-- consequence: in a reachable state, `lookup` finds exactly the members of the store -/
theorem C10_lookup_iff_mem {V : Type} (up : Nat → Nat → V) (n : Nat) (s : St V)
    (h : Reach up n s) (j : Nat) (v : V) : lookup s.store j = some v ↔ (j, v) ∈ s.store :=
  ⟨Cache.mem_of_lookup, Cache.lookup_of_mem_nodup h.inv.nodup⟩

example : (keys sEx.store).Nodup ∧ (∀ p ∈ sEx.store, p.1 < 3) ∧ sEx.calls.length = 3 := by decide +kernel

/-- A cached example never changes: no step removes or overwrites an entry. -/
theorem C10_entries_frozen {V : Type} (up : Nat → Nat → V) (s s' : St V) (op : Op) (o : Out V)
    (j : Nat) (v : V) :
    step up s op = (s', o) → lookup s.store j = some v → lookup s'.store j = some v := by
  intro hs hl
  have := (Cache.step_le up s op).lookup hl
  rwa [hs] at this

/-- ... and therefore no history does. -/
theorem C10_entries_frozen_run {V : Type} (up : Nat → Nat → V) (s s' : St V) (ops : List Op)
    (os : List (Out V)) (j : Nat) (v : V) :
    run up s ops = (s', os) → lookup s.store j = some v → lookup s'.store j = some v := by
  intro hs hl
  have := (Cache.run_le up s ops).lookup hl
  rwa [hs] at this

-- example 1 is cached as 100 after the first access and still is after the whole history
example : lookup (run upEx (init 3) (hist.take 1)).1.store 1 = some 100 ∧
    lookup (run upEx (run upEx (init 3) (hist.take 1)).1 (hist.drop 1)).1.store 1 = some 100 := by decide +kernel

/-- A copy shares the store: `copy` leaves it unchanged (and the store is one field of the
    state, read by every instance). -/
theorem C10_copy_shares {V : Type} (up : Nat → Nat → V) (s : St V) (inst : Nat) :
    (step up s (.copy inst)).1.store = s.store ∧ (step up s (.copy inst)).1.calls = s.calls :=
  Cache.step_preserves up (P := fun t => t.store = s.store ∧ t.calls = s.calls) _ ⟨rfl, rfl⟩
    (fun _ _ _ => ⟨rfl, rfl⟩) (fun _ _ _ _ e => nomatch e)

-- the copy made in step 3 reads the entry that instance 0 wrote in step 6
example : (step upEx (run upEx (init 3) (hist.take 6)).1 (.get 1 (-1) true)).2 = .val 202 := by decide +kernel

/-- Every value a `get` returns in a reachable state is one the upstream pipeline really
    produced for that example: it is `up j c` for the normalised index `j` and an evaluation
    number `c` below the number of evaluations made so far. -/
theorem C10_value_is_produced {V : Type} (up : Nat → Nat → V) (n : Nat) (s s' : St V)
    (inst : Nat) (i : Int) (mem : Bool) (v : V) (hr : Reach up n s)
    (hs : step up s (.get inst i mem) = (s', .val v)) :
    ∃ j c, normIdx n i = some j ∧ c < s'.calls.getD j 0 ∧ v = up j c := by
  have hn := hr.n_eq
  obtain ⟨j, hj, ⟨hl, rfl⟩ | ⟨_, rfl, rfl⟩⟩ := Cache.step_val hs
  · obtain ⟨c, hc, hv⟩ := hr.inv.produced j v (Cache.mem_of_lookup hl)
    exact ⟨j, c, hn ▸ hj, hc, hv⟩
  · refine ⟨j, s.calls.getD j 0, hn ▸ hj, ?_, rfl⟩
    show _ < (s.calls.set j (s.calls.getD j 0 + 1)).getD j 0
    rw [List.getD_set_self _ (hr.inv.calls_len ▸ Cache.normIdx_lt hj)]
    exact Nat.lt_succ_self _

-- the fifth access returns 201 = upEx 2 1, the second of (then) two evaluations of example 2
example : step upEx (run upEx (init 3) (hist.take 4)).1 (.get 1 2 true) =
      ((run upEx (init 3) (hist.take 5)).1, .val 201) ∧
    (run upEx (init 3) (hist.take 5)).1.calls.getD 2 0 = 2 ∧ 201 = upEx 2 1 := by decide +kernel

/-- Transparency and at-most-once evaluation: if memory never runs short in a history (every
    `get` has `mem = true`), then every value returned, through whichever instance and with
    whichever sign of the index, is the FIRST value `up j 0` of the upstream pipeline for the
    normalised index `j`, and the upstream pipeline was evaluated at most once per example. -/
theorem C10_transparent_once {V : Type} (up : Nat → Nat → V) (n : Nat) (ops : List Op)
    (hm : ∀ inst i mem, Op.get inst i mem ∈ ops → mem = true) :
    (∀ (k inst : Nat) (i : Int) (mem : Bool) (v : V),
        ops[k]? = some (Op.get inst i mem) →
        (run up (init n) ops).2[k]? = some (Out.val v) →
        ∃ j, normIdx n i = some j ∧ v = up j 0) ∧
    (∀ j, (run up (init n) ops).1.calls.getD j 0 ≤ 1) := by
  obtain ⟨ht, hv⟩ := Cache.tinv_run (Cache.inv_init up n) (Cache.tinv_init up n) ops hm
  exact ⟨hv, ht.calls_le⟩

example : (run upEx (init 3) histMem).2 =
      [.val 100, .val 100, .newInst 1, .val 200, .val 200, .val 200, .val 0, .val 0] ∧
    (run upEx (init 3) histMem).1.calls = [1, 1, 1] := by decide +kernel

/-- The hypothesis of `C10_transparent_once` is needed: in `hist` memory runs short once, and
    example 2 is evaluated three times with three different results. -/
theorem C10_transparent_once_needs_memory :
    (run upEx (init 3) hist).1.calls.getD 2 0 = 3 ∧
    (run upEx (init 3) hist).2[4]? = some (.val 201) ∧ upEx 2 0 = 200 := by decide +kernel

/-- Both signs of an index address the same entry (the subject of defect F4): `ds[i - n]` behaves
    exactly like `ds[i]` (same new state, same output), for `0 ≤ i < n`. -/
theorem C10_negative_index {V : Type} (up : Nat → Nat → V) (n : Nat) (s : St V) (inst : Nat)
    (i : Int) (mem : Bool) (hn : s.n = n) (h0 : 0 ≤ i) (h1 : i < n) :
    step up s (.get inst (i - n) mem) = step up s (.get inst i mem) := by
  rw [Cache.step_get_eq, Cache.step_get_eq, hn, Cache.normIdx_neg h0 h1, Cache.normIdx_nonneg h0 h1]

example : step upEx sEx (.get 0 (1 - 3) true) = step upEx sEx (.get 0 1 true) ∧
    (step upEx sEx (.get 0 (-2) true)).2 = .val 100 := by decide +kernel

/-- An index outside `[-n, n)` raises `IndexError` and changes nothing. -/
theorem C10_index_error {V : Type} (up : Nat → Nat → V) (s : St V) (inst : Nat) (i : Int)
    (mem : Bool) (hi : i < -(s.n : Int) ∨ (s.n : Int) ≤ i) (hinst : inst < s.latch.length) :
    step up s (.get inst i mem) = (s, .indexError) :=
  Cache.step_get_out up mem hinst (Cache.normIdx_none_iff.2 hi)

example : step upEx sEx (.get 1 3 true) = (sEx, .indexError) ∧
    step upEx sEx (.get 0 (-4) false) = (sEx, .indexError) := by decide +kernel

/-- A latched instance never adds an entry, whatever the memory oracle says. -/
theorem C10_after_latch {V : Type} (up : Nat → Nat → V) (s : St V) (inst : Nat) (i : Int)
    (mem : Bool) (hl : s.latch[inst]? = some false) :
    (step up s (.get inst i mem)).1.store = s.store :=
  Cache.step_store_of_not_check up i fun hc => by
    have := (Cache.check_fst_true hc).2.1
    rw [hl] at this; cases this

-- instance 1 is latched after the fourth access; its fifth access (memory fine) stores nothing
example : (run upEx (init 3) (hist.take 4)).1.latch[1]? = some false ∧
    (step upEx (run upEx (init 3) (hist.take 4)).1 (.get 1 2 true)).1.store =
      (run upEx (init 3) (hist.take 4)).1.store := by decide +kernel

/-- The latch is permanent: a latched instance stays latched along every step ... -/
theorem C10_latch_monotone {V : Type} (up : Nat → Nat → V) (s s' : St V) (op : Op) (o : Out V)
    (k : Nat) : step up s op = (s', o) → s.latch[k]? = some false → s'.latch[k]? = some false := by
  intro hs hk
  have := (Cache.step_le up s op).latch_false k hk
  rwa [hs] at this

/-- ... and along every history. -/
theorem C10_latch_monotone_run {V : Type} (up : Nat → Nat → V) (s : St V) (ops : List Op)
    (k : Nat) (hk : s.latch[k]? = some false) : (run up s ops).1.latch[k]? = some false :=
  (Cache.run_le up s ops).latch_false k hk

example : (run upEx (init 3) (hist.take 4)).1.latch[1]? = some false ∧
    sEx.latch[1]? = some false := by decide +kernel

/-- When memory is short nothing is stored. -/
theorem C10_memory_false_stores_nothing {V : Type} (up : Nat → Nat → V) (s : St V) (inst : Nat)
    (i : Int) : (step up s (.get inst i false)).1.store = s.store :=
  Cache.step_store_of_not_check up i fun hc => nomatch (Cache.check_fst_true hc).1

-- the fourth access (memory short) evaluates example 2 but stores nothing
example : (step upEx (run upEx (init 3) (hist.take 3)).1 (.get 1 (-1) false)).1.store =
      (run upEx (init 3) (hist.take 3)).1.store ∧
    (step upEx (run upEx (init 3) (hist.take 3)).1 (.get 1 (-1) false)).2 = .val 200 := by decide +kernel

/-- A hit returns the frozen value and changes nothing; in particular the upstream pipeline is
    not evaluated (`calls` is part of the unchanged state).  `inst` has to be an existing
    instance (otherwise the model answers `badInst`). -/
theorem C10_hit_no_call {V : Type} (up : Nat → Nat → V) (s : St V) (inst : Nat) (i : Int)
    (mem : Bool) (j : Nat) (v : V) (hinst : inst < s.latch.length)
    (hj : normIdx s.n i = some j) (hl : lookup s.store j = some v) :
    step up s (.get inst i mem) = (s, .val v) :=
  Cache.step_get_hit up mem hinst hj hl

example : step upEx sEx (.get 1 (-1) true) = (sEx, .val 202) ∧
    step upEx sEx (.get 0 1 false) = (sEx, .val 100) := by decide +kernel

end LazyDs
