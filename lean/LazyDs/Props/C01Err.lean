import LazyDs.Lemmas.SoundErr
/-
  C01, construction-time errors: the lazy pipeline refuses to be constructed exactly when the eager
  reference refuses, and with the same exception class outside one corner.

  The corner: `ds.filter(f)[spec]` and `ds.filter(f).sort(key_fn)` raise the `AssertionError` of
  `FilterDataset.__getitem__` in the model (`DS.sliceGuard`), while `Ref.mkSlice` only knows that the
  input is not indexable (`RuntimeError`); `build_err_ref_counterexample` proves that the two sides
  differ there for every interpretation of the user functions.  `AdmErr ρ p` says that no `slice` /
  `sort key` stage of `p` sits directly on such a guarded dataset.
-/
namespace LazyDs

/-- The lazy pipeline refuses with `e` iff the eager reference refuses with `e` (pipelines in `AdmErr`). -/
theorem C01_build_error_eq_ref_partial (ρ : Env) (hρ : EnvOK ρ) (p : Pipeline) (ha : Adm ρ p)
    (hae : AdmErr ρ p) (e : Err) : build ρ p = .error e ↔ ref ρ p = .error e :=
  (build_sim ρ hρ p ha).error_iff (.inl hae)

/-- The lazy pipeline can be constructed iff the eager reference can (no extra hypothesis). -/
theorem C01_build_ok_iff_ref_ok (ρ : Env) (hρ : EnvOK ρ) (p : Pipeline) (ha : Adm ρ p) :
    (∃ d, build ρ p = .ok d) ↔ (∃ r, ref ρ p = .ok r) :=
  (build_sim ρ hρ p ha).isOk_iff

/-- The exact relation between the two exception classes on every admissible pipeline. -/
theorem C01_build_error_classes (ρ : Env) (hρ : EnvOK ρ) (p : Pipeline) (ha : Adm ρ p) (e : Err)
    (h : build ρ p = .error e) :
    ref ρ p = .error e ∨ (e = .assertionError ∧ ref ρ p = .error .runtimeError) := by
  rcases build_err_ref_gen ρ hρ p ha e h with h1 | ⟨_, h2, h3⟩
  · exact .inl h1
  · exact .inr ⟨h2, h3⟩

/-- Outside the `AssertionError`/`RuntimeError` pair the classes agree on every admissible pipeline. -/
theorem C01_build_error_eq_ref_of_ne (ρ : Env) (hρ : EnvOK ρ) (p : Pipeline) (ha : Adm ρ p) (e : Err)
    (h1 : e ≠ .assertionError) (h2 : e ≠ .runtimeError) : build ρ p = .error e ↔ ref ρ p = .error e :=
  (build_sim ρ hρ p ha).error_iff (.inr ⟨h1, h2⟩)

/-! ### non-vacuity: concrete failing pipelines -/

def idEnv : Env := ⟨fun _ v => .ok v, fun _ _ => .ok true⟩

theorem idEnv_ok : EnvOK idEnv := by
  intro f v h; cases h

/-- `new([1, 2]).shard(5, 0)` -/
example : build idEnv (.shard 5 0 (.listSrc [.int 1, .int 2])) = .error .valueError ∧
    ref idEnv (.shard 5 0 (.listSrc [.int 1, .int 2])) = .error .valueError :=
  ⟨rfl, (C01_build_error_eq_ref_partial idEnv idEnv_ok (.shard 5 0 (.listSrc [.int 1, .int 2]))
    trivial trivial .valueError).mp rfl⟩

example : ref idEnv (.tile 0 (.map .identity (.dictSrc [("a", .int 1)]))) = .error .typeError :=
  (C01_build_error_eq_ref_partial idEnv idEnv_ok (.tile 0 (.map .identity (.dictSrc [("a", .int 1)])))
    (by decide : ["a"].Nodup) trivial .typeError).mp rfl

/-- the slice sits on an `unbatch`, which is not indexable but has no guard: the pipeline is in `AdmErr` -/
example : ref idEnv (.slice (.idx [0]) (.unbatch (.listSrc [.list [.int 1]]))) = .error .runtimeError :=
  (C01_build_error_eq_ref_partial idEnv idEnv_ok (.slice (.idx [0]) (.unbatch (.listSrc [.list [.int 1]])))
    trivial ⟨trivial, fun d hd => by cases hd; rfl⟩ .runtimeError).mp rfl

example : ∃ r, ref idEnv (.shard 2 1 (.listSrc [.int 1, .int 2, .int 3])) = .ok r :=
  (C01_build_ok_iff_ref_ok idEnv idEnv_ok (.shard 2 1 (.listSrc [.int 1, .int 2, .int 3])) trivial).mp ⟨_, rfl⟩

end LazyDs
